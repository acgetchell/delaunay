/-
DelaunayModel.lean — the library root: the executable model (Model/) and the property theorems (Props/C01 … C19,
which bring in every lemma module), so that a plain `lake build` checks every theorem.
-/
import DelaunayModel.Model.Adjacency
import DelaunayModel.Model.Basic
import DelaunayModel.Model.Budget
import DelaunayModel.Model.Cavity
import DelaunayModel.Model.Certify
import DelaunayModel.Model.Cx
import DelaunayModel.Model.Det
import DelaunayModel.Model.DupCache
import DelaunayModel.Model.Flip
import DelaunayModel.Model.Gen
import DelaunayModel.Model.Hilbert
import DelaunayModel.Model.Insert
import DelaunayModel.Model.Judge
import DelaunayModel.Model.L4
import DelaunayModel.Model.Locate
import DelaunayModel.Model.Measures
import DelaunayModel.Model.Order
import DelaunayModel.Model.Pipeline
import DelaunayModel.Model.Policy
import DelaunayModel.Model.Pred
import DelaunayModel.Model.Proto
import DelaunayModel.Model.ProtoCx
import DelaunayModel.Model.Remove
import DelaunayModel.Model.Repair
import DelaunayModel.Model.Serde
import DelaunayModel.Model.StarRemoval
import DelaunayModel.Model.Txn
import DelaunayModel.Model.Wrap
import DelaunayModel.Props.C01
import DelaunayModel.Props.C02
import DelaunayModel.Props.C03
import DelaunayModel.Props.C04
import DelaunayModel.Props.C05
import DelaunayModel.Props.C06
import DelaunayModel.Props.C07
import DelaunayModel.Props.C08
import DelaunayModel.Props.C09
import DelaunayModel.Props.C10
import DelaunayModel.Props.C11
import DelaunayModel.Props.C12
import DelaunayModel.Props.C13
import DelaunayModel.Props.C14
import DelaunayModel.Props.C15
import DelaunayModel.Props.C16
import DelaunayModel.Props.C17
import DelaunayModel.Props.C18
import DelaunayModel.Props.C19
