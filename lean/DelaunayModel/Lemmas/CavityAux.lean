/-
Lemmas/CavityAux.lean — the cone cell `coneCell v f` (`f ∪ {v}`) and the cavity insertion
`cavityInsertWith cells C F v` (Model/Cavity.lean; an instance of `dropAdd`, Lemmas/CellsAux.lean),
under Props/C02.lean, Props/C11.lean and the star-removal lemmas: the facets of a cone
(`without (coneCell v f) v = f`, `without (coneCell v f) x = coneCell v (without f x)`); coning over
`v` and removing `v` are inverse bijections between sorted facets avoiding `v` and sorted cells
through `v` (`map_without_coneCell`, `map_coneCell_without`); the facet counts of a cone (facets
avoiding the apex: the base; facets through it: the cones over the ridges of the base); and the
complex after the step (membership, duplicate-freeness, the degree afterwards of a facet without /
through the new vertex).  Core only (no Mathlib).
-/
import DelaunayModel.Lemmas.CellsAux
namespace DM

/-! ### the cone cell -/

theorem mem_coneCell {v x : Nat} {f : List Nat} : x ∈ coneCell v f ↔ x = v ∨ x ∈ f := by
  simp [coneCell, mem_sortNat]

theorem self_mem_coneCell (v : Nat) (f : List Nat) : v ∈ coneCell v f :=
  mem_coneCell.2 (Or.inl rfl)

theorem mem_of_mem_map_coneCell {v : Nat} {F : List (List Nat)} {b : List Nat}
    (hb : b ∈ F.map (coneCell v)) : v ∈ b := by
  obtain ⟨f, _, rfl⟩ := List.mem_map.1 hb
  exact self_mem_coneCell v f

theorem coneCell_perm (v : Nat) (f : List Nat) : (coneCell v f).Perm (v :: f) := sortNat_perm _

theorem coneCell_length (v : Nat) (f : List Nat) : (coneCell v f).length = f.length + 1 := by
  simp [coneCell, sortNat_length]

theorem coneCell_le_sorted (v : Nat) (f : List Nat) : (coneCell v f).Pairwise (· ≤ ·) :=
  sortNat_sorted _

theorem coneCell_nodup {v : Nat} {f : List Nat} (hv : v ∉ f) (hf : f.Nodup) :
    (coneCell v f).Nodup :=
  (coneCell_perm v f).nodup_iff.2 (List.nodup_cons.2 ⟨hv, hf⟩)

theorem coneCell_lt_sorted {v : Nat} {f : List Nat} (hv : v ∉ f) (hf : f.Pairwise (· < ·)) :
    (coneCell v f).Pairwise (· < ·) :=
  le_sorted_nodup_lt (coneCell_le_sorted v f) (coneCell_nodup hv (lt_sorted_nodup hf))

theorem without_coneCell_self {v : Nat} {f : List Nat} (hf : f.Pairwise (· ≤ ·)) (hv : v ∉ f) :
    without (coneCell v f) v = f := by
  rw [coneCell, without_sortNat, without_cons, if_pos rfl, without_eq_self hv, sortNat_of_sorted hf]

theorem without_coneCell_ne {v x : Nat} (f : List Nat) (hx : x ≠ v) :
    without (coneCell v f) x = coneCell v (without f x) := by
  rw [coneCell, without_sortNat, without_cons, if_neg (Ne.symm hx), coneCell]

theorem coneCell_inj {v : Nat} {a b : List Nat} (ha : a.Pairwise (· ≤ ·))
    (hb : b.Pairwise (· ≤ ·)) (h : coneCell v a = coneCell v b) : a = b := by
  apply sorted_perm_eq ha hb
  have : (v :: a).Perm (v :: b) := (sortNat_eq_iff_perm _ _).1 h
  exact List.Perm.cons_inv this

theorem coneCell_without {v : Nat} {c : List Nat} (hc : c.Pairwise (· < ·)) (hv : v ∈ c) :
    coneCell v (without c v) = c := by
  -- `c` is `v` and the rest, up to order, and both sides are sorted
  refine sorted_perm_eq (coneCell_le_sorted _ _) (lt_sorted_le hc) ((coneCell_perm _ _).trans ?_)
  have h1 : c.filter (· == v) = [v] :=
    (filter_eq_singleton_iff (lt_sorted_nodup hc) _ v).2 ⟨hv, by simp⟩
  have h2 := List.filter_append_perm (· == v) c
  rwa [h1] at h2

theorem map_coneCell_nodup {v : Nat} {F : List (List Nat)} (hF : F.Nodup)
    (hs : ∀ f ∈ F, f.Pairwise (· ≤ ·)) : (F.map (coneCell v)).Nodup :=
  nodup_map_on (fun a ha b hb e => coneCell_inj (hs a ha) (hs b hb) e) hF

theorem map_without_coneCell {v : Nat} {F : List (List Nat)} (hFs : ∀ f ∈ F, f.Pairwise (· < ·))
    (hvF : ∀ f ∈ F, v ∉ f) : (F.map (coneCell v)).map (fun c => without c v) = F := by
  rw [List.map_map]
  exact (List.map_congr_left fun f hf =>
    without_coneCell_self (lt_sorted_le (hFs f hf)) (hvF f hf)).trans (List.map_id _)

theorem map_coneCell_without {v : Nat} {S : List (List Nat)} (hs : ∀ c ∈ S, c.Pairwise (· < ·))
    (hv : ∀ c ∈ S, v ∈ c) : (S.map (fun c => without c v)).map (coneCell v) = S := by
  rw [List.map_map]
  exact (List.map_congr_left fun c hc => coneCell_without (hs c hc) (hv c hc)).trans (List.map_id _)

/-! ### facet counting -/

/-- the facets of a cone cell: the base, and the cones over the facets of the base -/
theorem facets_coneCell {v : Nat} {g : List Nat} (hg : g.Pairwise (· ≤ ·)) (hvg : v ∉ g) :
    ((coneCell v g).map (without (coneCell v g))).Perm
      (g :: (g.map (without g)).map (coneCell v)) := by
  refine ((coneCell_perm v g).map _).trans ?_
  rw [List.map_cons, without_coneCell_self hg hvg, List.map_map]
  refine List.Perm.cons _ (List.Perm.of_eq (List.map_congr_left fun x hx => ?_))
  exact without_coneCell_ne g fun e => hvg (e ▸ hx)

/-- the facets of the cone over `F`: `F` itself, and the cones over the ridges of `F` -/
theorem cellFacets_map_coneCell {v : Nat} {F : List (List Nat)}
    (hs : ∀ g ∈ F, g.Pairwise (· ≤ ·)) (hvF : ∀ g ∈ F, v ∉ g) :
    (cellFacets (F.map (coneCell v))).Perm (F ++ (cellFacets F).map (coneCell v)) := by
  induction F with
  | nil => exact List.Perm.refl _
  | cons g F ih =>
    have h1 := facets_coneCell (hs g List.mem_cons_self) (hvF g List.mem_cons_self)
    have h2 := ih (fun x hx => hs x (List.mem_cons_of_mem _ hx))
      fun x hx => hvF x (List.mem_cons_of_mem _ hx)
    simp only [cellFacets, List.map_cons, List.flatMap_cons, List.map_append] at h2 ⊢
    refine (h1.append h2).trans ?_
    rw [List.cons_append, List.cons_append]
    exact List.Perm.cons _ (List.perm_append_comm_assoc _ _ _)

theorem facetCount_cone_base {v : Nat} {F : List (List Nat)} {f : List Nat}
    (hs : ∀ g ∈ F, g.Pairwise (· ≤ ·)) (hvF : ∀ g ∈ F, v ∉ g) (hvf : v ∉ f) :
    facetCount (F.map (coneCell v)) f = F.count f := by
  rw [facetCount, (cellFacets_map_coneCell hs hvF).count_eq, List.count_append,
    List.count_eq_zero.2 fun h => hvf (mem_of_mem_map_coneCell h), Nat.add_zero]

theorem facetCount_cone_ridge {v : Nat} {F : List (List Nat)} {r : List Nat}
    (hs : ∀ g ∈ F, g.Pairwise (· ≤ ·)) (hvF : ∀ g ∈ F, v ∉ g) (hr : r.Pairwise (· ≤ ·)) :
    facetCount (F.map (coneCell v)) (coneCell v r) = facetCount F r := by
  rw [facetCount, (cellFacets_map_coneCell hs hvF).count_eq, List.count_append,
    List.count_eq_zero.2 fun h => hvF _ h (self_mem_coneCell v r), Nat.zero_add]
  -- coning is injective on sorted lists, and every ridge of `F` is sorted
  refine count_map_on fun f hf e => coneCell_inj ?_ hr e
  obtain ⟨g, hg, x, _, rfl⟩ := mem_cellFacets.1 hf
  exact (hs g hg).sublist (without_sublist g x)

/-! ### the complex after the step -/

theorem cavityInsertWith_eq_dropAdd (cells C F : List (List Nat)) (v : Nat) :
    cavityInsertWith cells C F v = dropAdd cells C.contains (F.map (coneCell v)) := rfl

theorem mem_cavityInsertWith {cells C F : List (List Nat)} {v : Nat} {x : List Nat} :
    x ∈ cavityInsertWith cells C F v ↔ (x ∈ cells ∧ x ∉ C) ∨ ∃ f ∈ F, x = coneCell v f := by
  simp [cavityInsertWith, @eq_comm _ x]

theorem cavityInsertWith_nodup {cells F : List (List Nat)} (C : List (List Nat)) {v : Nat}
    (hnd : cells.Nodup) (hF : F.Nodup) (hFs : ∀ f ∈ F, f.Pairwise (· < ·))
    (hfresh : ∀ c ∈ cells, v ∉ c) : (cavityInsertWith cells C F v).Nodup := by
  rw [cavityInsertWith_eq_dropAdd]
  exact dropAdd_nodup hnd (map_coneCell_nodup hF fun f hf => lt_sorted_le (hFs f hf))
    fun _ hb hc => absurd (mem_of_mem_map_coneCell hb) (hfresh _ hc)

theorem facetCount_sub_le {cells C : List (List Nat)} (hnd : cells.Nodup) (hC : C.Nodup)
    (hsub : ∀ c ∈ C, c ∈ cells) (f : List Nat) : facetCount C f ≤ facetCount cells f := by
  have := facetCount_replace [] hnd hC hsub f
  rw [facetCount_nil] at this
  omega

theorem facetCount_step_old {cells C F : List (List Nat)} {v : Nat} (hnd : cells.Nodup)
    (hC : C.Nodup) (hsub : ∀ c ∈ C, c ∈ cells) (hF : F.Nodup)
    (hFs : ∀ f ∈ F, f.Pairwise (· < ·)) (hvF : ∀ f ∈ F, v ∉ f) {f : List Nat} (hvf : v ∉ f) :
    facetCount (cavityInsertWith cells C F v) f =
      facetCount cells f - facetCount C f + (if f ∈ F then 1 else 0) := by
  have h := facetCount_replace (F.map (coneCell v)) hnd hC hsub f
  rw [← cavityInsertWith_eq_dropAdd,
    facetCount_cone_base (fun g hg => lt_sorted_le (hFs g hg)) hvF hvf, hF.count] at h
  have := facetCount_sub_le hnd hC hsub f
  omega

theorem facetCount_step_cone {cells F : List (List Nat)} (C : List (List Nat)) {v : Nat}
    (hfresh : ∀ c ∈ cells, v ∉ c) (hFs : ∀ f ∈ F, f.Pairwise (· < ·)) (hvF : ∀ f ∈ F, v ∉ f)
    {r : List Nat} (hr : r.Pairwise (· ≤ ·)) :
    facetCount (cavityInsertWith cells C F v) (coneCell v r) = ridgeCount F r := by
  unfold cavityInsertWith ridgeCount
  rw [facetCount_append, facetCount_cone_ridge (fun g hg => lt_sorted_le (hFs g hg)) hvF hr,
    facetCount_eq_zero_of_fresh (fun a ha => hfresh a (List.mem_filter.1 ha).1)
      (self_mem_coneCell v r), Nat.zero_add]

end DM
