/-
Lemmas/HullStepAux.lean — lemmas for the hull-after-insertion section of Props/C11.lean: the boundary
`bdry cells` of a cell list (facets incident to exactly one cell = hull facets; the
`cavityBoundary` of Model/Cavity.lean under the name it has for a whole complex, with its lemmas), the
shape of a facet through the new vertex after a step `cavityInsertWith cells C F v` (the facet
degrees after the step are in Lemmas/CavityAux.lean), the coned facets `hullStepFacets C V` of a hull
extension with conflict region.
Core only (no Mathlib).
-/
import DelaunayModel.Lemmas.CavityAux
namespace DM

/-- the boundary (hull) of a cell list: the facets that occur exactly once among all cell facets,
i.e. the facets incident to exactly one cell -/
def bdry (cells : List (List Nat)) : List (List Nat) := cavityBoundary cells

/-! ### the boundary -/

theorem mem_bdry {cells : List (List Nat)} {f : List Nat} :
    f ∈ bdry cells ↔ facetCount cells f = 1 := mem_cavityBoundary

theorem bdry_nodup (cells : List (List Nat)) : (bdry cells).Nodup := cavityBoundary_nodup cells

theorem bdry_lt_sorted {cells : List (List Nat)} (hs : ∀ c ∈ cells, c.Pairwise (· < ·)) :
    ∀ f ∈ bdry cells, f.Pairwise (· < ·) := cavityBoundary_lt_sorted hs

theorem bdry_fresh {cells : List (List Nat)} {v : Nat} (hv : ∀ c ∈ cells, v ∉ c) :
    ∀ f ∈ bdry cells, v ∉ f := cavityBoundary_fresh hv

/-- the facets a hull extension with conflict region cones over are boundary facets of the removed
region `C ⊆ cells` or (visible) hull facets of the complex, hence sorted and without a vertex that is
new to the complex -/
theorem bdry_facets_ok {cells C F V : List (List Nat)} {v : Nat}
    (hs : ∀ c ∈ cells, c.Pairwise (· < ·)) (hsub : ∀ c ∈ C, c ∈ cells)
    (hfresh : ∀ c ∈ cells, v ∉ c) (hVb : ∀ f ∈ V, f ∈ bdry cells)
    (hFV : ∀ f, f ∈ F ↔ (f ∈ bdry C ∧ f ∉ V) ∨ (f ∈ V ∧ f ∉ bdry C)) :
    (∀ g ∈ F, g.Pairwise (· < ·)) ∧ ∀ g ∈ F, v ∉ g := by
  obtain ⟨hCs, hvC⟩ := cavityBoundary_sub_ok hs hsub hfresh
  have hF : ∀ g ∈ F, g ∈ bdry C ∨ g ∈ bdry cells := fun g hg =>
    ((hFV g).1 hg).imp And.left fun h => hVb g h.1
  exact ⟨fun g hg => (hF g hg).elim (hCs g) (bdry_lt_sorted hs g),
    fun g hg => (hF g hg).elim (hvC g) (bdry_fresh hfresh g)⟩

theorem bdry_nil : bdry [] = [] := rfl

theorem ridgeCount_eq_one_iff {F : List (List Nat)} {r : List Nat} :
    ridgeCount F r = 1 ↔ r ∈ bdry F := mem_bdry.symm

/-! ### the complex after the step -/

theorem step_facet_through_v {cells F : List (List Nat)} (C : List (List Nat)) {v : Nat}
    (hfresh : ∀ c ∈ cells, v ∉ c) (hFs : ∀ f ∈ F, f.Pairwise (· < ·)) (hvF : ∀ f ∈ F, v ∉ f)
    {g : List Nat} (hg : g ∈ cellFacets (cavityInsertWith cells C F v)) (hv : v ∈ g) :
    g.Pairwise (· < ·) ∧ coneCell v (without g v) = g := by
  obtain ⟨x, hx, y, _, rfl⟩ := mem_cellFacets.1 hg
  have hvx : v ∈ x := (without_sublist x y).subset hv
  rcases mem_cavityInsertWith.1 hx with ⟨h1, _⟩ | ⟨f, hf, rfl⟩
  · exact absurd hvx (hfresh x h1)
  · have hs : (without (coneCell v f) y).Pairwise (· < ·) :=
      (coneCell_lt_sorted (hvF f hf) (hFs f hf)).sublist (without_sublist _ y)
    exact ⟨hs, coneCell_without hs hv⟩

/-! ### the coned facets of a hull extension with a conflict region -/

/-- the facets coned by an exterior insertion with conflict region `C` and visible hull facets `V`
(Model/Cavity.lean, header): the boundary facets of `C` that are not visible, and the visible facets
that are not boundary facets of `C` — the symmetric difference.  `V = []`: `cavityBoundary C`
(interior insertion); `C = []`: `V` (pure hull extension). -/
def hullStepFacets (C V : List (List Nat)) : List (List Nat) :=
  (bdry C).filter (fun f => !V.contains f) ++ V.filter (fun f => !(bdry C).contains f)

theorem mem_hullStepFacets {C V : List (List Nat)} {f : List Nat} :
    f ∈ hullStepFacets C V ↔ (f ∈ bdry C ∧ f ∉ V) ∨ (f ∈ V ∧ f ∉ bdry C) := by
  unfold hullStepFacets
  rw [List.mem_append, List.mem_filter, List.mem_filter, not_contains_iff, not_contains_iff]

theorem hullStepFacets_nodup (C : List (List Nat)) {V : List (List Nat)} (hV : V.Nodup) :
    (hullStepFacets C V).Nodup := by
  unfold hullStepFacets
  refine List.nodup_append.2 ⟨List.Nodup.sublist List.filter_sublist (bdry_nodup C),
    List.Nodup.sublist List.filter_sublist hV, ?_⟩
  intro a ha b hb hab
  subst hab
  exact (not_contains_iff.1 (List.mem_filter.1 ha).2) (List.mem_filter.1 hb).1

end DM
