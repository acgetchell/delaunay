/-
Lemmas/VertexLinkAux.lean — helper definitions and lemmas for the vertex-link validator
(`vertexLink`, `linkSkeletonConnected`, `linkFacetsOk`, `vertexLinkOk`, `vertexLinksOk`,
`boundaryVerts` in Model/Cx.lean) used by Props/C05.lean §9:
 * membership in `vertexLink`, emptiness of the link,
 * proof-side names for the lists the validators build internally (`linkVerts`, `linkEdges2`,
   `linkSkeletonEdges`, `linkFacets`, `linkBoundaryFacets`, `linkBoundaryRidges`) with the
   unfolding lemmas (`linkSkeletonConnected_eq`, `linkFacetsOk_eq`, `vertexLinkOk_eq`, all `rfl`)
   and the membership lemmas other lemmas here need (the rest are proved in Props/C05.lean §9),
 * `linkSkeletonConnected_spec` (`graphReach_covers_iff` with the link vertices as bounding
   list: the link skeleton may have vertices on no edge).
Core only (no Mathlib).
-/
import DelaunayModel.Lemmas.CxAux
import DelaunayModel.Lemmas.LinkAux
namespace DM

theorem mem_vertexLink (K : Cx) (v : Nat) (s : List Nat) :
    s ∈ vertexLink K v ↔ ∃ c ∈ K.cells, v ∈ c.vs ∧ s = c.vs.filter (· != v) := by
  unfold vertexLink
  rw [List.mem_filterMap]
  refine exists_congr fun c => and_congr Iff.rfl ?_
  rw [Option.ite_none_right_eq_some, List.contains_iff_mem, Option.some.injEq, eq_comm]

theorem vertexLink_eq_nil (K : Cx) (v : Nat) :
    vertexLink K v = [] ↔ ∀ c ∈ K.cells, v ∉ c.vs := by
  rw [List.eq_nil_iff_forall_not_mem]
  constructor
  · intro h c hc hv
    exact h _ ((mem_vertexLink K v _).2 ⟨c, hc, hv, rfl⟩)
  · intro h s hs
    obtain ⟨c, hc, hv, _⟩ := (mem_vertexLink K v s).1 hs
    exact h c hc hv

/-- the distinct vertices of the link simplices (the `vs` of `linkSkeletonConnected`, the list
whose length the `D = 1` case of `vertexLinkOk` tests) -/
def linkVerts (link : List (List Nat)) : List Nat := dedupL (link.flatMap id)

theorem mem_linkVerts (link : List (List Nat)) (x : Nat) :
    x ∈ linkVerts link ↔ ∃ s ∈ link, x ∈ s := by
  unfold linkVerts
  rw [mem_dedupL]
  simp only [List.mem_flatMap, id]

theorem linkVerts_nodup (link : List (List Nat)) : (linkVerts link).Nodup := nodup_dedupL _

/-- the link simplices with exactly two vertices, as pairs (slot order kept) -/
def linkEdges2 (link : List (List Nat)) : List (Nat × Nat) :=
  link.filterMap (fun e => match e with | [a, b] => some (a, b) | _ => none)

/-- the edge list `es` of `linkSkeletonConnected`: all pairs (smaller entry first) inside a link
simplex -/
def linkSkeletonEdges (link : List (List Nat)) : List (Nat × Nat) :=
  link.flatMap (fun s => (subsetsK 2 (sortNat s)).filterMap
    (fun e => match e with | [a, b] => some (a, b) | _ => none))

theorem linkSkeletonConnected_eq (link : List (List Nat)) :
    linkSkeletonConnected link =
      match linkVerts link with
      | [] => true
      | v :: rest =>
        (graphReach (dedupEdges (linkSkeletonEdges link)) (rest.length + 1) [v]).length
          == rest.length + 1 := rfl

theorem mem_linkSkeletonEdges (link : List (List Nat)) (a b : Nat) :
    (a, b) ∈ linkSkeletonEdges link ↔ ∃ s ∈ link, [a, b].Sublist (sortNat s) := by
  unfold linkSkeletonEdges
  rw [List.mem_flatMap]
  exact exists_congr fun s => and_congr Iff.rfl (mem_pairs_subsetsK (sortNat s) a b)

/-- any adjacency of the skeleton is inside a link simplex (also for a loop) -/
theorem adj_linkSkeletonEdges_mem (link : List (List Nat)) (a b : Nat)
    (h : Adj (linkSkeletonEdges link) a b) : ∃ s ∈ link, a ∈ s ∧ b ∈ s := by
  unfold Adj at h
  simp only [mem_linkSkeletonEdges] at h
  rcases h with ⟨s, hs, h⟩ | ⟨s, hs, h⟩
  · exact ⟨s, hs, mem_sortNat.1 (h.subset (by simp)), mem_sortNat.1 (h.subset (by simp))⟩
  · exact ⟨s, hs, mem_sortNat.1 (h.subset (by simp)), mem_sortNat.1 (h.subset (by simp))⟩

theorem linkSkeletonConnected_spec (link : List (List Nat)) :
    linkSkeletonConnected link = true ↔
      ∀ u w, u ∈ linkVerts link → w ∈ linkVerts link → GReach (linkSkeletonEdges link) u w := by
  rw [linkSkeletonConnected_eq]
  refine (graphReach_covers_iff _ (linkVerts_nodup link) fun e he => ?_).trans ?_
  · obtain ⟨s, hs, h1, h2⟩ :=
      adj_linkSkeletonEdges_mem link _ _ ((adj_dedupEdges _ _ _).1 (Or.inl he))
    exact ⟨(mem_linkVerts link _).2 ⟨s, hs, h1⟩, (mem_linkVerts link _).2 ⟨s, hs, h2⟩⟩
  · simp only [greach_dedupEdges]

/-- `facets` of `linkFacetsOk`: every link simplex (sorted) minus one entry, with repetitions -/
def linkFacets (link : List (List Nat)) : List (List Nat) :=
  link.flatMap (fun s => dropEach (sortNat s))

/-- `bfacets` of `linkFacetsOk`: the distinct facets that occur exactly once -/
def linkBoundaryFacets (link : List (List Nat)) : List (List Nat) :=
  dedup ((linkFacets link).filter (fun f => (linkFacets link).count f == 1))

/-- `ridges` of `linkFacetsOk`: every boundary facet minus one entry, with repetitions -/
def linkBoundaryRidges (link : List (List Nat)) : List (List Nat) :=
  (linkBoundaryFacets link).flatMap dropEach

theorem linkFacetsOk_eq (D : Nat) (link : List (List Nat)) (interior : Bool) :
    linkFacetsOk D link interior =
      if !(link.all (·.length == D)) then false else
      if !((linkFacets link).all (fun f =>
        (linkFacets link).count f == 1 || (linkFacets link).count f == 2)) then false else
      if interior && !(linkBoundaryFacets link).isEmpty then false else
      (linkBoundaryRidges link).all (fun r => (linkBoundaryRidges link).count r == 2) := rfl

theorem mem_linkBoundaryFacets (link : List (List Nat)) (f : List Nat) :
    f ∈ linkBoundaryFacets link ↔ f ∈ linkFacets link ∧ (linkFacets link).count f = 1 := by
  unfold linkBoundaryFacets
  rw [dedup_eq, mem_dedupL, List.mem_filter, beq_iff_eq]

theorem linkBoundaryFacets_isEmpty (link : List (List Nat)) :
    (linkBoundaryFacets link).isEmpty = true ↔
      ∀ f ∈ linkFacets link, (linkFacets link).count f ≠ 1 := by
  rw [List.isEmpty_iff, List.eq_nil_iff_forall_not_mem]
  constructor
  · intro h f hf hc
    exact h f ((mem_linkBoundaryFacets link f).2 ⟨hf, hc⟩)
  · intro h f hf
    have := (mem_linkBoundaryFacets link f).1 hf
    exact h f this.1 this.2

theorem vertexLinkOk_eq (K : Cx) (v : Nat) :
    vertexLinkOk K v =
      if (vertexLink K v).isEmpty then false else
      if K.D == 1 then
        (if !(boundaryVerts K).contains v then (linkVerts (vertexLink K v)).length == 2
         else (linkVerts (vertexLink K v)).length == 1)
      else if K.D == 2 then
        if !((vertexLink K v).all (·.length == 2)) then false else
        linkGraphOk (linkEdges2 (vertexLink K v))
          (some (if !(boundaryVerts K).contains v then 0 else 2))
      else
        linkSkeletonConnected (vertexLink K v) &&
        linkFacetsOk K.D (vertexLink K v) (!(boundaryVerts K).contains v) &&
        (if K.D == 3 then
           (if !(boundaryVerts K).contains v then
              surfaceChi (vertexLink K v) == 2 && surfaceBoundaryComponents (vertexLink K v) == 0
            else
              surfaceChi (vertexLink K v) == 1 && surfaceBoundaryComponents (vertexLink K v) == 1)
         else true) := rfl

end DM
