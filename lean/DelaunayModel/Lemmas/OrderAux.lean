/-
Lemmas/OrderAux.lean — helper lemmas for Props/C17 about `Model/Order.lean`:

 * insertion sort: permutation; `sortKeyed_pairwise`: the sorted list is `Pairwise R` for every
   relation `R` that the comparator decides and that is transitive on the members, hence
   sortedness of the primary keys (all inputs) and, for points of one common length, sortedness
   w.r.t. the full comparator `cmpKeyed` and w.r.t. (key, coordinates) alone, the input index
   being the last tie-break (`sortKeyed_sorted_values`, `cmpVal_antisymm`);
 * the comparator algebra: `compat` (the composition table of a total preorder given as a
   three-way comparison), closed under the lexicographic combination `Ordering.then`; both
   `cmpNat` and the coordinate comparison enter it as comparisons built from a strict weak order.

Core only.
-/
import DelaunayModel.Model.Order
namespace DM.OrderAux

open DM DM.Order

/-! ### insertion sort is a permutation -/

theorem insertKeyed_perm (x : Nat × OV) (l : List (Nat × OV)) : (insertKeyed x l).Perm (x :: l) := by
  induction l with
  | nil => simp [insertKeyed]
  | cons y ys ih =>
    simp only [insertKeyed]
    split
    · exact (List.Perm.cons y ih).trans (List.Perm.swap x y ys)
    · exact List.Perm.refl _

theorem sortKeyed_perm (l : List (Nat × OV)) : (sortKeyed l).Perm l := by
  induction l with
  | nil => simp [sortKeyed]
  | cons x xs ih => exact (insertKeyed_perm x (sortKeyed xs)).trans (List.Perm.cons x ih)

theorem orderByKey_perm (key : OV → Nat) (vs : List OV) : (orderByKey key vs).Perm vs := by
  unfold orderByKey
  have h := (sortKeyed_perm (vs.map (fun v => (key v, v)))).map (·.2)
  simpa [List.map_map, Function.comp_def] using h

/-! ### three-way comparisons that are total preorders -/

/-- the composition table of a total preorder presented as a three-way comparison:
`compat (cmp a b) (cmp b c) (cmp a c)` -/
def compat : Ordering → Ordering → Ordering → Bool
  | .lt, .lt, o | .lt, .eq, o | .eq, .lt, o => o == .lt
  | .eq, .eq, o => o == .eq
  | .gt, .gt, o | .gt, .eq, o | .eq, .gt, o => o == .gt
  | .lt, .gt, _ | .gt, .lt, _ => true

theorem compat_then {o1 o2 o3 p1 p2 p3 : Ordering} :
    compat o1 o2 o3 = true → compat p1 p2 p3 = true →
      compat (o1.then p1) (o2.then p2) (o3.then p3) = true := by
  revert o1 o2 o3 p1 p2 p3
  decide +kernel

theorem compat_le_trans {o1 o2 o3 : Ordering} :
    compat o1 o2 o3 = true → o1 ≠ .gt → o2 ≠ .gt → o3 ≠ .gt := by
  revert o1 o2 o3
  decide

/-- a three-way comparison built from a strict weak order (asymmetric + negatively transitive);
`p = a<b, p' = b<a, q = b<c, q' = c<b, r = a<c, r' = c<a` -/
theorem compat_of_strictWeak : ∀ (p q r p' q' r' : Bool),
    ((!p || !p') && (!q || !q') && (!r || !r') &&
      (p || q || !r) && (q' || p' || !r') && (r || q' || !p) && (p' || r || !q) &&
      (q || r' || !p') && (r' || p || !q')) = true →
    compat (if p then .lt else if p' then .gt else .eq) (if q then .lt else if q' then .gt else .eq)
      (if r then .lt else if r' then .gt else .eq) = true := by
  decide +kernel

/-- `cmpNat` is core's `compare` on `Nat`, whose lemmas (`Nat.compare_swap`, `Nat.compare_eq_eq`,
`Nat.isLE_compare`) then apply -/
theorem cmpNat_eq_compare (a b : Nat) : cmpNat a b = compare a b := (Nat.compare_eq_ite_lt a b).symm

theorem cmpNat_swap (a b : Nat) : cmpNat a b = (cmpNat b a).swap := by
  rw [cmpNat_eq_compare, cmpNat_eq_compare, Nat.compare_swap]

/-- `cmpNat` is the three-way comparison of the strict weak order `<` on `Nat` -/
theorem cmpNat_compat (a b c : Nat) : compat (cmpNat a b) (cmpNat b c) (cmpNat a c) = true := by
  have h := compat_of_strictWeak (decide (a < b)) (decide (b < c)) (decide (a < c))
    (decide (b < a)) (decide (c < b)) (decide (c < a))
  simp only [decide_eq_true_eq] at h
  apply h
  simp only [Bool.and_eq_true, Bool.or_eq_true, Bool.not_eq_true', decide_eq_true_eq,
    decide_eq_false_iff_not]
  omega

/-! ### `Q.lt` on positive denominators -/

theorem ofDy_den_pos (d : Dy) : 0 < (Q.ofDy d).den := by
  unfold Q.ofDy
  split
  · exact Nat.one_pos
  · exact Nat.two_pow_pos _

theorem qlt_asymm (a b : Q) : (!Q.lt a b || !Q.lt b a) = true := by
  simp only [Q.lt, Bool.or_eq_true, Bool.not_eq_true', decide_eq_false_iff_not]
  omega

/-- transitivity of `≤` on rationals (`Q.lt a b = false` is `b ≤ a`), middle denominator positive -/
theorem qlt_le_trans {a b c : Q} (hb : 0 < b.den) (h1 : Q.lt a b = false) (h2 : Q.lt b c = false) :
    Q.lt a c = false := by
  simp only [Q.lt, decide_eq_false_iff_not, Int.not_lt] at *
  have ha' : (0 : Int) ≤ (a.den : Int) := Int.natCast_nonneg _
  have hc' : (0 : Int) ≤ (c.den : Int) := Int.natCast_nonneg _
  have hb' : (0 : Int) < (b.den : Int) := by exact_mod_cast hb
  have e1 := Int.mul_le_mul_of_nonneg_right h2 ha'
  have e2 := Int.mul_le_mul_of_nonneg_right h1 hc'
  have e3 : c.num * ↑a.den * ↑b.den ≤ a.num * ↑c.den * ↑b.den := by
    have t1 : c.num * ↑a.den * ↑b.den = c.num * ↑b.den * ↑a.den := by ac_rfl
    have t2 : a.num * ↑c.den * ↑b.den = a.num * ↑b.den * ↑c.den := by ac_rfl
    have t3 : b.num * ↑c.den * ↑a.den = b.num * ↑a.den * ↑c.den := by ac_rfl
    rw [t1, t2]
    exact Int.le_trans e1 (t3 ▸ e2)
  exact Int.le_of_mul_le_mul_right e3 hb'

/-- negative transitivity of `Q.lt`, as the Boolean clause `compat_of_strictWeak` takes -/
theorem qlt_negTrans {a b c : Q} (hb : 0 < b.den) :
    (Q.lt a b || Q.lt b c || !Q.lt a c) = true := by
  have h := qlt_le_trans (a := a) (c := c) hb
  cases h1 : Q.lt a b <;> cases h2 : Q.lt b c <;> simp_all

/-- the coordinate comparison -/
abbrev cmpD (a b : Dy) : Ordering := cmpQ (Q.ofDy a) (Q.ofDy b)

theorem cmpD_swap (a b : Dy) : cmpD a b = (cmpD b a).swap := by
  unfold cmpD cmpQ
  have h1 := qlt_asymm (Q.ofDy a) (Q.ofDy b)
  cases h : Q.lt (Q.ofDy a) (Q.ofDy b) <;> cases h' : Q.lt (Q.ofDy b) (Q.ofDy a) <;>
    simp_all [Ordering.swap]

theorem cmpD_compat (a b c : Dy) : compat (cmpD a b) (cmpD b c) (cmpD a c) = true := by
  unfold cmpD cmpQ
  have pa := ofDy_den_pos a
  have pb := ofDy_den_pos b
  have pc := ofDy_den_pos c
  apply compat_of_strictWeak
  simp only [qlt_asymm, qlt_negTrans pa, qlt_negTrans pb, qlt_negTrans pc, Bool.and_self]

/-! ### `cmpPt` and `cmpKeyed` -/

theorem cmpPt_cons (a : Dy) (as : DPt) (b : Dy) (bs : DPt) :
    cmpPt (a :: as) (b :: bs) = (cmpD a b).then (cmpPt as bs) := by
  simp only [cmpPt, cmpD]
  cases cmpQ (Q.ofDy a) (Q.ofDy b) <;> rfl

theorem cmpPt_swap (a b : DPt) : cmpPt a b = (cmpPt b a).swap := by
  induction a generalizing b with
  | nil => cases b <;> rfl
  | cons x xs ih =>
    cases b with
    | nil => rfl
    | cons y ys => rw [cmpPt_cons, cmpPt_cons, Ordering.swap_then, ← cmpD_swap, ← ih]

theorem cmpPt_compat {a b c : DPt} (hab : a.length = b.length) (hbc : b.length = c.length) :
    compat (cmpPt a b) (cmpPt b c) (cmpPt a c) = true := by
  induction a generalizing b c with
  | nil =>
    obtain rfl := List.eq_nil_of_length_eq_zero hab.symm
    obtain rfl := List.eq_nil_of_length_eq_zero hbc.symm
    rfl
  | cons x xs ih =>
    obtain ⟨y, ys, rfl⟩ := List.exists_cons_of_length_eq_add_one hab.symm
    obtain ⟨z, zs, rfl⟩ := List.exists_cons_of_length_eq_add_one hbc.symm
    simp only [cmpPt_cons]
    exact compat_then (cmpD_compat x y z) (ih (Nat.succ.inj hab) (Nat.succ.inj hbc))

theorem cmpKeyed_eq (a b : Nat × OV) :
    cmpKeyed a b = (cmpNat a.1 b.1).then ((cmpPt a.2.pt b.2.pt).then (cmpNat a.2.idx b.2.idx)) := by
  unfold cmpKeyed
  cases cmpNat a.1 b.1 <;> cases cmpPt a.2.pt b.2.pt <;> rfl

theorem cmpKeyed_swap (a b : Nat × OV) : cmpKeyed a b = (cmpKeyed b a).swap := by
  rw [cmpKeyed_eq, cmpKeyed_eq, Ordering.swap_then, Ordering.swap_then, ← cmpNat_swap, ← cmpPt_swap, ← cmpNat_swap]

/-- `≤` both ways in (key, coordinates) is comparison-equality of both components -/
theorem cmpVal_antisymm {k k' : Nat} {p p' : DPt} (h : ((cmpNat k k').then (cmpPt p p')).isLE)
    (h' : ((cmpNat k' k).then (cmpPt p' p)).isLE) : cmpNat k k' = .eq ∧ cmpPt p p' = .eq := by
  rw [cmpNat_swap k' k, cmpPt_swap p' p, ← Ordering.swap_then] at h'
  exact Ordering.then_eq_eq.1 (Ordering.eq_eq_of_isLE_of_isLE_swap h h')

theorem cmpKeyed_compat {a b c : Nat × OV} (hab : a.2.pt.length = b.2.pt.length)
    (hbc : b.2.pt.length = c.2.pt.length) :
    compat (cmpKeyed a b) (cmpKeyed b c) (cmpKeyed a c) = true := by
  simp only [cmpKeyed_eq]
  exact compat_then (cmpNat_compat _ _ _) (compat_then (cmpPt_compat hab hbc) (cmpNat_compat _ _ _))

/-- totality: of two keyed vertices one is `≤` the other (no length hypothesis) -/
theorem cmpKeyed_total {a b : Nat × OV} (h : cmpKeyed a b = .gt) : cmpKeyed b a ≠ .gt := by
  rw [cmpKeyed_swap, Ordering.swap_eq_gt] at h
  rw [h]
  decide

theorem cmpKeyed_le_trans {a b c : Nat × OV} (hab : a.2.pt.length = b.2.pt.length)
    (hbc : b.2.pt.length = c.2.pt.length) :
    cmpKeyed a b ≠ .gt → cmpKeyed b c ≠ .gt → cmpKeyed a c ≠ .gt :=
  compat_le_trans (cmpKeyed_compat hab hbc)

theorem key_le_of_cmpKeyed {a b : Nat × OV} (h : cmpKeyed a b ≠ .gt) : a.1 ≤ b.1 := by
  have h' := Ordering.isLE_left_of_isLE_then (Ordering.isLE_iff_ne_gt.2 (cmpKeyed_eq a b ▸ h))
  rwa [cmpNat_eq_compare, Nat.isLE_compare] at h'

/-! ### sortedness of the insertion sort -/

/-- Insertion keeps `Pairwise R` for every relation `R` that the comparator decides between `x` and
the members of `l` and that is transitive from `x` through members. -/
theorem insertKeyed_pairwise {R : Nat × OV → Nat × OV → Prop} (x : Nat × OV) {l : List (Nat × OV)}
    (hgt : ∀ y ∈ l, cmpKeyed x y = .gt → R y x) (hle : ∀ y ∈ l, cmpKeyed x y ≠ .gt → R x y)
    (htr : ∀ y ∈ l, ∀ z ∈ l, R x y → R y z → R x z) (h : l.Pairwise R) :
    (insertKeyed x l).Pairwise R := by
  induction l with
  | nil => simp [insertKeyed]
  | cons y ys ih =>
    obtain ⟨hy, hys⟩ := List.pairwise_cons.1 h
    have my : y ∈ y :: ys := List.mem_cons_self
    simp only [insertKeyed, beq_iff_eq]
    split
    · rename_i hxy
      refine List.pairwise_cons.2 ⟨fun z hz => ?_, ih (fun z hz => hgt z (.tail _ hz))
        (fun z hz => hle z (.tail _ hz)) (fun z hz w hw => htr z (.tail _ hz) w (.tail _ hw)) hys⟩
      rcases List.mem_cons.1 ((insertKeyed_perm x ys).mem_iff.1 hz) with rfl | hz'
      · exact hgt y my hxy
      · exact hy z hz'
    · rename_i hxy
      refine List.pairwise_cons.2 ⟨fun z hz => ?_, h⟩
      rcases List.mem_cons.1 hz with rfl | hz'
      · exact hle z my hxy
      · exact htr y my z (.tail _ hz') (hle y my hxy) (hy z hz')

/-- Insertion sort by the (total) comparator makes the list `Pairwise R` for every relation `R` that
holds wherever the comparator says `≤` and is transitive on the members. -/
theorem sortKeyed_pairwise {R : Nat × OV → Nat × OV → Prop} (l : List (Nat × OV))
    (hle : ∀ x ∈ l, ∀ y ∈ l, cmpKeyed x y ≠ .gt → R x y)
    (htr : ∀ x ∈ l, ∀ y ∈ l, ∀ z ∈ l, R x y → R y z → R x z) : (sortKeyed l).Pairwise R := by
  induction l with
  | nil => simp [sortKeyed]
  | cons x xs ih =>
    have m : ∀ {y}, y ∈ sortKeyed xs → y ∈ x :: xs :=
      fun hy => .tail _ ((sortKeyed_perm xs).mem_iff.1 hy)
    exact insertKeyed_pairwise x (fun y hy h => hle y (m hy) x (.head _) (cmpKeyed_total h))
      (fun y hy => hle x (.head _) y (m hy)) (fun y hy z hz => htr x (.head _) y (m hy) z (m hz))
      (ih (fun a ha b hb => hle a (.tail _ ha) b (.tail _ hb))
        (fun a ha b hb c hc => htr a (.tail _ ha) b (.tail _ hb) c (.tail _ hc)))

theorem sortKeyed_keys_le (l : List (Nat × OV)) : (sortKeyed l).Pairwise (fun a b => a.1 ≤ b.1) :=
  sortKeyed_pairwise l (fun _ _ _ _ => key_le_of_cmpKeyed) (fun _ _ _ _ _ _ => Nat.le_trans)

theorem sortKeyed_sorted {n : Nat} (l : List (Nat × OV)) (hl : ∀ p ∈ l, p.2.pt.length = n) :
    (sortKeyed l).Pairwise (fun a b => cmpKeyed a b ≠ .gt) :=
  sortKeyed_pairwise l (fun _ _ _ _ h => h)
    (fun a ha b hb c hc =>
      cmpKeyed_le_trans ((hl a ha).trans (hl b hb).symm) ((hl b hb).trans (hl c hc).symm))

/-- the sort is a sort by (key, coordinates): the input index only breaks ties -/
theorem sortKeyed_sorted_values {n : Nat} (l : List (Nat × OV)) (hl : ∀ p ∈ l, p.2.pt.length = n) :
    (sortKeyed l).Pairwise fun a b => ((cmpNat a.1 b.1).then (cmpPt a.2.pt b.2.pt)).isLE :=
  (sortKeyed_sorted l hl).imp fun {a b} hab =>
    Ordering.isLE_left_of_isLE_then (o₂ := cmpNat a.2.idx b.2.idx) (by
      rw [Ordering.then_assoc, ← cmpKeyed_eq]
      exact Ordering.isLE_iff_ne_gt.2 hab)

/-- what holds between the keyed pairs of the sorted list holds between the vertices of the ordering
(members of the sorted keyed list are keyed by `key`) -/
theorem orderByKey_pairwise {R : Nat × OV → Nat × OV → Prop} (key : OV → Nat) (vs : List OV)
    (h : (sortKeyed (vs.map (fun v => (key v, v)))).Pairwise R) :
    (orderByKey key vs).Pairwise (fun u v => R (key u, u) (key v, v)) := by
  unfold orderByKey
  rw [List.pairwise_map]
  have keyed : ∀ p ∈ sortKeyed (vs.map (fun v => (key v, v))), p = (key p.2, p.2) := by
    intro p hp
    obtain ⟨v, _, rfl⟩ := List.mem_map.1 ((sortKeyed_perm _).mem_iff.1 hp)
    rfl
  refine h.imp_of_mem ?_
  intro a b ha hb hab
  rw [keyed a ha, keyed b hb] at hab
  exact hab

end DM.OrderAux
