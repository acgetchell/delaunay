/-
Lemmas/LiftedAux.lean — the "lifted" in-sphere determinant (`DM.liftedDet`, Model/Det.lean;
Rust `insphere_lifted`) against the standard one (`DM.insphereDet`).

With `lift p = [p | ‖p‖²]` (Lemmas/DetBridge) and the edge vectors `edges0` (Model/Measures), for the
`D + 2` points `X = s ++ [q]`:

  insphereDet s q = orientDet (X.map lift)                       (`insphereDet_eq_orientDet_lift`)
                  = (−1)^(D+1) · det (edges0 (X.map lift))        (`orientDet_eq_edges`, dimension `D+1`)
  liftedDet s q   = det ((edges0 X).map lift)                     (`liftedRows_eq`)

and lifting commutes with taking edge vectors up to one column operation (`det_edgeMat_liftM`,
list form `det_map_lift_edges0`), because `‖p‖² − ‖p₀‖² = ‖p − p₀‖² + 2 p₀ · (p − p₀)`.
`Props/C12.lifted_eq_insphere` puts the three together; `liftedRows_translate` (the lifted rows are
differences of points) gives `Props/C12.insphereDet_translate`.
-/
import DelaunayModel.Lemmas.MeasAux

namespace DM

open DM.Measures

/-! ## 1. `lift` on matrices -/

def nrm {D : Nat} (f : Fin D → ℤ) : ℤ := ∑ j, f j * f j

theorem sqNorm_append_singleton (l : List Int) (x : Int) : sqNorm (l ++ [x]) = sqNorm l + x * x := by
  simp [sqNorm, List.foldl_append]

theorem sqNorm_ofFn : ∀ {D : Nat} (f : Fin D → ℤ), sqNorm (List.ofFn f) = nrm f
  | 0, f => by simp [sqNorm, nrm]
  | D + 1, f => by
    rw [List.ofFn_succ_last, sqNorm_append_singleton, sqNorm_ofFn, nrm, nrm, Fin.sum_univ_castSucc]

def liftM {n D : Nat} (P : Matrix (Fin n) (Fin D) ℤ) : Matrix (Fin n) (Fin (D + 1)) ℤ :=
  Matrix.of fun i => Fin.snoc (P i) (nrm (P i))

theorem map_lift_rowsOf {n D : Nat} (P : Matrix (Fin n) (Fin D) ℤ) :
    (rowsOf P).map lift = rowsOf (liftM P) := by
  simp only [rowsOf, List.map_ofFn]
  refine congrArg List.ofFn (funext fun i => ?_)
  simp only [Function.comp_apply, lift, sqNorm_ofFn]
  exact (ofFn_snoc _ _).symm

theorem nrm_sub {D : Nat} (a b : Fin D → ℤ) :
    nrm a - nrm b = nrm (fun j => a j - b j) + ∑ j, (2 * b j) * (a j - b j) := by
  unfold nrm
  rw [← Finset.sum_sub_distrib, ← Finset.sum_add_distrib]
  exact Finset.sum_congr rfl fun j _ => by ring

/-- **Lifting commutes with taking edge vectors, up to a column operation** that adds multiples
of the coordinate columns to the norm column. -/
theorem det_edgeMat_liftM {D : Nat} (P : Matrix (Fin (D + 1 + 1)) (Fin D) ℤ) :
    (edgeMat (liftM P)).det = (liftM (edgeMat P)).det := by
  have : edgeMat (liftM P) = (liftM (edgeMat P)).updateCol (Fin.last D) fun k =>
      ∑ i, (Fin.snoc (fun j => 2 * P 0 j) 1 : Fin (D + 1) → ℤ) i • liftM (edgeMat P) k i := by
    ext k j
    refine Fin.lastCases ?_ (fun j' => ?_) j
    · simp only [edgeMat, liftM, Matrix.of_apply, Fin.snoc_last, Matrix.updateCol_self,
        Fin.sum_univ_castSucc, Fin.snoc_castSucc, smul_eq_mul, one_mul, nrm_sub (P k.succ) (P 0)]
      exact add_comm _ _
    · simp [edgeMat, liftM, Fin.castSucc_ne_last]
  rw [this, Matrix.det_updateCol_sum]
  simp

/-! ## 2. The list-level identity -/

theorem liftedRows_eq (s : List IPt) (q : IPt) :
    liftedRows s q = (edges0 (s ++ [q])).map lift := by
  cases s with
  | nil => rfl
  | cons p0 rest =>
    simp only [liftedRows, List.cons_append, edges0, List.map_map]
    refine List.map_congr_left fun p _ => ?_
    simp only [Function.comp_apply, lift, Measures.sub, List.zip_eq_zipWith, List.map_zipWith]

theorem det_map_lift_edges0 {D : Nat} {X : List IPt} (hl : X.length = D + 1 + 1)
    (hX : ∀ p ∈ X, p.length = D) : det ((edges0 X).map lift) = det (edges0 (X.map lift)) := by
  obtain ⟨P, rfl⟩ := exists_rowsOf hl hX
  rw [edges0_rowsOf, map_lift_rowsOf, map_lift_rowsOf, edges0_rowsOf, det_rowsOf, det_rowsOf,
    det_edgeMat_liftM]

theorem liftedParity_mul_self (D : Nat) : liftedParity D * liftedParity D = 1 := by
  unfold liftedParity
  split <;> rfl

/-! ## 3. Translation invariance -/

theorem liftedRows_translate {D : Nat} {s : List IPt} {q t : IPt}
    (hs : ∀ p ∈ s, p.length = D) (hq : q.length = D) (ht : t.length = D) :
    liftedRows (s.map (vadd · t)) (vadd q t) = liftedRows s q := by
  have := edges0_translate t (s ++ [q]) ht
    (List.forall_mem_append.2 ⟨hs, List.forall_mem_singleton.2 hq⟩)
  rw [liftedRows_eq, liftedRows_eq, ← this, List.map_append, List.map_singleton]

end DM
