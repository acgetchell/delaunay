/-
Lemmas/StarRemovalAux.lean — lemmas about the star-removal model (Model/StarRemoval.lean), under the
star-removal section of Props/C06.lean: membership in `starKept` / `linkOf` / `starVerts`, the split
`cells = kept ∪ star` (as a permutation, for facet counts), the degree in a set of cells through `v`
of a facet avoiding `v` is its multiplicity among the facets opposite `v` (the cells are the cones
over these facets, so this is the cone lemma of Lemmas/CavityAux.lean read backwards), the link is
duplicate-free, `starLinkFacets` is the link, `starOnHull`.  Core only (no Mathlib).
-/
import DelaunayModel.Model.StarRemoval
import DelaunayModel.Lemmas.CavityAux
namespace DM

/-! ### star and kept cells -/

theorem mem_starKept {cells : List (List Nat)} {v : Nat} {c : List Nat} :
    c ∈ starKept cells v ↔ c ∈ cells ∧ v ∉ c := by
  simp [starKept]

theorem starFill_eq_dropAdd (cells : List (List Nat)) (v : Nat) (fill : List (List Nat)) :
    starFill cells v fill = dropAdd cells (fun c => c.contains v) fill := rfl

theorem starFill_eq (cells : List (List Nat)) (v : Nat) (fill : List (List Nat)) :
    starFill cells v fill = starKept cells v ++ fill := rfl

theorem mem_linkOf {cells : List (List Nat)} {v : Nat} {f : List Nat} :
    f ∈ linkOf cells v ↔ ∃ c ∈ cells, v ∈ c ∧ without c v = f := by
  simp only [linkOf, List.mem_map, mem_starOf, and_assoc]

theorem mem_starVerts {cells : List (List Nat)} {v u : Nat} :
    u ∈ starVerts cells v ↔ ∃ c ∈ starOf cells v, u ∈ c := by
  simp [starVerts]

theorem star_kept_perm (cells : List (List Nat)) (v : Nat) :
    (starKept cells v ++ starOf cells v).Perm cells :=
  List.perm_append_comm.trans (List.filter_append_perm (fun c : List Nat => c.contains v) cells)

theorem facetCount_star_split (cells : List (List Nat)) (v : Nat) (f : List Nat) :
    facetCount cells f = facetCount (starKept cells v) f + facetCount (starOf cells v) f := by
  rw [← facetCount_append]
  exact (facetCount_perm (star_kept_perm cells v) f).symm

/-! ### the facet opposite `v` -/

/-- the degree in a set of cells through `v` of a facet avoiding `v` is its multiplicity among the
facets opposite `v`: the cells are the cones over these facets -/
theorem facetCount_through {S : List (List Nat)} {v : Nat} {f : List Nat}
    (hs : ∀ c ∈ S, c.Pairwise (· < ·)) (hv : ∀ c ∈ S, v ∈ c) (hvf : v ∉ f) :
    facetCount S f = (S.map (fun c => without c v)).count f := by
  have h := facetCount_cone_base (v := v) (f := f)
    (List.forall_mem_map.2 fun c hc => (lt_sorted_le (hs c hc)).sublist (without_sublist c v))
    (List.forall_mem_map.2 fun c _ => not_mem_without_self c v) hvf
  rwa [map_coneCell_without hs hv] at h

/-- the link facets are distinct: two star cells do not share the facet opposite `v` (coning the
link from `v` gives the star back, which is duplicate-free) -/
theorem linkOf_nodup {cells : List (List Nat)} (hnd : cells.Nodup)
    (hs : ∀ c ∈ cells, c.Pairwise (· < ·)) (v : Nat) : (linkOf cells v).Nodup := by
  refine nodup_of_map (coneCell v) ?_
  rw [linkOf, map_coneCell_without (fun c hc => hs c (mem_starOf.1 hc).1)
    (fun _ hc => (mem_starOf.1 hc).2)]
  exact hnd.sublist List.filter_sublist

theorem facetCount_star_link {cells : List (List Nat)} {v : Nat} {f : List Nat} (hnd : cells.Nodup)
    (hs : ∀ c ∈ cells, c.Pairwise (· < ·)) (hvf : v ∉ f) :
    facetCount (starOf cells v) f = if f ∈ linkOf cells v then 1 else 0 := by
  rw [← (linkOf_nodup hnd hs v).count]
  exact facetCount_through (fun c hc => hs c (mem_starOf.1 hc).1) (fun _ hc => (mem_starOf.1 hc).2) hvf

/-! ### `starLinkFacets`, `starOnHull` -/

theorem mem_starLinkFacets {cells : List (List Nat)} {v : Nat} {f : List Nat} :
    f ∈ starLinkFacets cells v ↔ facetCount (starOf cells v) f = 1 ∧ v ∉ f := by
  unfold starLinkFacets
  rw [List.mem_filter, mem_cavityBoundary]
  simp

theorem starLinkFacets_nodup (cells : List (List Nat)) (v : Nat) : (starLinkFacets cells v).Nodup :=
  List.Nodup.sublist List.filter_sublist (cavityBoundary_nodup _)

theorem mem_starLinkFacets_iff_link {cells : List (List Nat)} {v : Nat} {f : List Nat}
    (hnd : cells.Nodup) (hs : ∀ c ∈ cells, c.Pairwise (· < ·)) :
    f ∈ starLinkFacets cells v ↔ f ∈ linkOf cells v := by
  rw [mem_starLinkFacets]
  constructor
  · rintro ⟨h1, hvf⟩
    rw [facetCount_star_link hnd hs hvf] at h1
    by_cases hm : f ∈ linkOf cells v
    · exact hm
    · rw [if_neg hm] at h1
      omega
  · intro hm
    have hvf : v ∉ f := by
      obtain ⟨c, _, _, rfl⟩ := mem_linkOf.1 hm
      exact not_mem_without_self c v
    refine ⟨?_, hvf⟩
    rw [facetCount_star_link hnd hs hvf, if_pos hm]

theorem starOnHull_iff {cells : List (List Nat)} {v : Nat} :
    starOnHull cells v = true ↔ ∃ f, facetCount (starOf cells v) f = 1 ∧ v ∈ f := by
  unfold starOnHull
  rw [List.any_eq_true]
  constructor
  · rintro ⟨f, hf, hv⟩
    exact ⟨f, mem_cavityBoundary.1 hf, by simpa using hv⟩
  · rintro ⟨f, hf, hv⟩
    exact ⟨f, mem_cavityBoundary.2 hf, by simpa using hv⟩

end DM
