/-
Lemmas/FlipAux.lean — the bistellar-move model (Model/Flip.lean) for Props/C07.lean: membership in
the union, the old/new cell lists are duplicate-free and disjoint, `flipGuard` as a `Prop` structure;
and where the three cell-set models agree: the cells of a k = 1 move written as cone cells, so the
move is the interior cavity insertion into one cell up to the order of the cone cells
(`flipCells_k1_eq`, `flipCells_k1_perm_cavityInsert`); the boundary of the removed / inserted region
of a general move is `{ U \ {a, b} : a ∈ R, b ∈ I }` (`flip_region_boundary_iff`).
Core only (no Mathlib).
-/
import DelaunayModel.Lemmas.CavityAux
namespace DM

/-! ### the union, old and new cells -/

theorem mem_flipUnion {R I : List Nat} {x : Nat} : x ∈ flipUnion R I ↔ x ∈ R ∨ x ∈ I := by
  simp [flipUnion, mem_sortNat]

theorem flipUnion_comm (R I : List Nat) : flipUnion I R = flipUnion R I :=
  (sortNat_eq_iff_perm _ _).2 List.perm_append_comm

theorem flipUnion_nodup {R I : List Nat} (h : (R ++ I).Nodup) : (flipUnion R I).Nodup :=
  (sortNat_perm _).nodup_iff.2 h

theorem flipOld_swap (R I : List Nat) : flipOld I R = flipNew R I := by
  simp [flipOld, flipNew, flipUnion_comm]

theorem flipNew_swap (R I : List Nat) : flipNew I R = flipOld R I := by
  simp [flipOld, flipNew, flipUnion_comm]

theorem mem_flipOld {R I c : List Nat} :
    c ∈ flipOld R I ↔ ∃ w ∈ I, without (flipUnion R I) w = c := by
  simp [flipOld]

theorem mem_flipNew {R I c : List Nat} :
    c ∈ flipNew R I ↔ ∃ v ∈ R, without (flipUnion R I) v = c := by
  simp [flipNew]

theorem flipCells_eq_dropAdd (cells : List (List Nat)) (R I : List Nat) :
    flipCells cells R I = dropAdd cells (flipOld R I).contains (flipNew R I) := rfl

theorem mem_flipCells {cells : List (List Nat)} {R I c : List Nat} :
    c ∈ flipCells cells R I ↔ (c ∈ cells ∧ c ∉ flipOld R I) ∨ c ∈ flipNew R I := by
  simp [flipCells]

theorem flipOld_length (R I : List Nat) : (flipOld R I).length = I.length := by
  simp [flipOld]

theorem flipNew_length (R I : List Nat) : (flipNew R I).length = R.length := by
  simp [flipNew]

theorem flipOld_nodup {R I : List Nat} (h : (R ++ I).Nodup) : (flipOld R I).Nodup :=
  map_without_nodup (List.nodup_append.1 h).2.1 (fun _ hx => mem_flipUnion.2 (Or.inr hx))

theorem flipNew_nodup {R I : List Nat} (h : (R ++ I).Nodup) : (flipNew R I).Nodup :=
  map_without_nodup (List.nodup_append.1 h).1 (fun _ hx => mem_flipUnion.2 (Or.inl hx))

theorem flipOld_not_flipNew {R I : List Nat} (h : (R ++ I).Nodup) {c : List Nat}
    (ho : c ∈ flipOld R I) : c ∉ flipNew R I := by
  intro hn
  obtain ⟨w, hw, rfl⟩ := mem_flipOld.1 ho
  obtain ⟨v, hv, hvw⟩ := mem_flipNew.1 hn
  have := without_inj (mem_flipUnion.2 (Or.inl hv)) hvw
  exact (List.nodup_append.1 h).2.2 v hv w hw this

/-- the vertices of the old cells: those of `U`, except a vertex that is alone in `I` -/
theorem exists_mem_flipOld {R I : List Nat} {v : Nat} :
    (∃ c ∈ flipOld R I, v ∈ c) ↔ v ∈ flipUnion R I ∧ ∃ w ∈ I, w ≠ v := by
  constructor
  · rintro ⟨c, hc, hv⟩
    obtain ⟨w, hw, rfl⟩ := mem_flipOld.1 hc
    exact ⟨(mem_without.1 hv).1, w, hw, fun e => (mem_without.1 hv).2 e.symm⟩
  · rintro ⟨hU, w, hw, hne⟩
    exact ⟨_, mem_flipOld.2 ⟨w, hw, rfl⟩, mem_without.2 ⟨hU, fun e => hne e.symm⟩⟩

theorem exists_mem_flipNew {R I : List Nat} {v : Nat} :
    (∃ c ∈ flipNew R I, v ∈ c) ↔ v ∈ flipUnion R I ∧ ∃ r ∈ R, r ≠ v := by
  rw [← flipOld_swap, exists_mem_flipOld, flipUnion_comm]

/-! ### the guard -/

structure FlipGuardSpec (D : Nat) (cells : List (List Nat)) (R I : List Nat) : Prop where
  nodup : (R ++ I).Nodup
  rne : R ≠ []
  ine : I ≠ []
  len : R.length + I.length = D + 2
  old_mem : ∀ c ∈ flipOld R I, c ∈ cells
  new_not_mem : ∀ c ∈ flipNew R I, c ∉ cells

theorem flipGuard_iff (D : Nat) (cells : List (List Nat)) (R I : List Nat) :
    flipGuard D cells R I = true ↔ FlipGuardSpec D cells R I := by
  unfold flipGuard
  simp only [Bool.and_eq_true, decide_eq_true_eq, Bool.not_eq_true', List.isEmpty_iff,
    beq_iff_eq, List.all_eq_true, Bool.eq_false_iff, ne_eq, List.contains_iff_mem]
  constructor
  · rintro ⟨⟨⟨⟨⟨h1, h2⟩, h3⟩, h4⟩, h5⟩, h6⟩
    exact ⟨h1, h2, h3, h4, h5, h6⟩
  · rintro ⟨h1, h2, h3, h4, h5, h6⟩
    exact ⟨⟨⟨⟨⟨h1, h2⟩, h3⟩, h4⟩, h5⟩, h6⟩

theorem insertedFaceNew_iff {cells : List (List Nat)} {R I : List Nat} :
    insertedFaceNew cells R I = true ↔ ∀ c ∈ cells, (∀ v ∈ I, v ∈ c) → c ∈ flipOld R I := by
  unfold insertedFaceNew
  simp only [List.all_eq_true, Bool.or_eq_true, List.contains_iff_mem, Bool.not_eq_true',
    ← Bool.not_eq_true, List.all_eq_true]
  exact ⟨fun h c hc hI => (h c hc).resolve_right fun hn => hn hI,
    fun h c hc => Classical.or_iff_not_imp_right.2 fun hn => h c hc (Classical.not_not.1 hn)⟩

/-! ### the forward k = 1 move: `I = [w]` -/

/-- the union of a k = 1 move is the cone from `w` over the removed cell -/
theorem flipUnion_k1 (R : List Nat) (w : Nat) : flipUnion R [w] = coneCell w (sortNat R) :=
  (sortNat_eq_iff_perm _ _).2
    (List.perm_append_comm.trans (List.Perm.cons w (sortNat_perm R).symm))

theorem flipUnion_without_inserted {R : List Nat} {w : Nat} (h : (R ++ [w]).Nodup) :
    without (flipUnion R [w]) w = sortNat R := by
  rw [flipUnion_k1, without_coneCell_self (sortNat_sorted R)]
  exact fun hw => not_mem_left_of_nodup_append h (List.mem_singleton.2 rfl) (mem_sortNat.1 hw)

theorem flipOld_k1 {R : List Nat} {w : Nat} (h : (R ++ [w]).Nodup) :
    flipOld R [w] = [sortNat R] := by
  unfold flipOld
  rw [List.map_singleton, flipUnion_without_inserted h]

theorem flipUnion_without_removed {R : List Nat} {w r : Nat} (h : (R ++ [w]).Nodup) (hr : r ∈ R) :
    without (flipUnion R [w]) r = coneCell w (without (sortNat R) r) := by
  rw [flipUnion_k1, without_coneCell_ne]
  exact (List.nodup_append.1 h).2.2 r hr w (List.mem_singleton.2 rfl)

theorem flipNew_k1 {R : List Nat} {w : Nat} (h : (R ++ [w]).Nodup) :
    flipNew R [w] = (R.map (without (sortNat R))).map (coneCell w) := by
  rw [flipNew, List.map_map]
  exact List.map_congr_left fun r hr => flipUnion_without_removed h hr

/-- the forward k = 1 move IS a cavity insertion, as an equation of cell LISTS: removed region the
single cell `sortNat R`, coned facets the facets of that cell in the order of `R` -/
theorem flipCells_k1_eq (cells : List (List Nat)) {R : List Nat} {w : Nat} (h : (R ++ [w]).Nodup) :
    flipCells cells R [w] =
      cavityInsertWith cells [sortNat R] (R.map (without (sortNat R))) w := by
  unfold flipCells cavityInsertWith
  rw [flipOld_k1 h, flipNew_k1 h]

/-- the facets the k = 1 move cones over are the boundary facets of the removed cell, listed in the
order of `R` instead of that of `sortNat R` -/
theorem map_without_sortNat_perm {R : List Nat} (hR : R.Nodup) :
    (R.map (without (sortNat R))).Perm (cavityBoundary [sortNat R]) := by
  rw [cavityBoundary_single (sortNat_nodup hR)]
  exact (sortNat_perm R).symm.map _

theorem flipCells_k1_perm_cavityInsert (cells : List (List Nat)) {R : List Nat} {w : Nat}
    (h : (R ++ [w]).Nodup) : (flipCells cells R [w]).Perm (cavityInsert cells [sortNat R] w) := by
  rw [flipCells_k1_eq cells h]
  exact List.Perm.append_left _ ((map_without_sortNat_perm (List.nodup_append.1 h).1).map _)

/-! ### the inverse k = 1 move: `R = [r]` -/

theorem flipUnion_without_removed_vertex {I : List Nat} {r : Nat} (h : ([r] ++ I).Nodup) :
    without (flipUnion [r] I) r = sortNat I := by
  rw [flipUnion_comm I [r]]
  exact flipUnion_without_inserted (List.perm_append_comm.nodup_iff.1 h)

theorem flipNew_k1_inverse {I : List Nat} {r : Nat} (h : ([r] ++ I).Nodup) :
    flipNew [r] I = [sortNat I] := by
  unfold flipNew
  rw [List.map_singleton, flipUnion_without_removed_vertex h]

theorem flipOld_k1_inverse_contains {I : List Nat} {r : Nat} (h : ([r] ++ I).Nodup) {c : List Nat}
    (hc : c ∈ flipOld [r] I) : r ∈ c := by
  obtain ⟨w, hw, rfl⟩ := mem_flipOld.1 hc
  have hrw : r ≠ w := (List.nodup_append.1 h).2.2 r (List.mem_singleton.2 rfl) w hw
  exact mem_without.2 ⟨mem_flipUnion.2 (Or.inl (List.mem_singleton.2 rfl)), hrw⟩

/-! ### the boundary of the removed / inserted region of a general move -/

/-- the boundary facets of the removed region `flipOld R I` are exactly the `U \ {a, b}` with one
omitted vertex in each face -/
theorem mem_cavityBoundary_flipOld {R I : List Nat} (h : (R ++ I).Nodup) {f : List Nat} :
    f ∈ cavityBoundary (flipOld R I) ↔
      ∃ a ∈ R, ∃ b ∈ I, f = without (without (flipUnion R I) a) b := by
  rw [flipOld, mem_cavityBoundary_map_without (flipUnion_nodup h) (List.nodup_append.1 h).2.1
    fun _ hx => mem_flipUnion.2 (Or.inr hx)]
  constructor
  · rintro ⟨b, hb, a, ha, haI, rfl⟩
    exact ⟨a, (mem_flipUnion.1 ha).resolve_right haI, b, hb, without_comm _ _ _⟩
  · rintro ⟨a, ha, b, hb, rfl⟩
    exact ⟨b, hb, a, mem_flipUnion.2 (Or.inl ha), not_mem_right_of_nodup_append h ha,
      without_comm _ _ _⟩

theorem mem_cavityBoundary_flipNew {R I : List Nat} (h : (R ++ I).Nodup) {f : List Nat} :
    f ∈ cavityBoundary (flipNew R I) ↔
      ∃ a ∈ R, ∃ b ∈ I, f = without (without (flipUnion R I) a) b := by
  rw [flipNew, mem_cavityBoundary_map_without (flipUnion_nodup h) (List.nodup_append.1 h).1
    fun _ hx => mem_flipUnion.2 (Or.inl hx)]
  constructor
  · rintro ⟨a, ha, b, hb, hbR, rfl⟩
    exact ⟨a, ha, b, (mem_flipUnion.1 hb).resolve_left hbR, rfl⟩
  · rintro ⟨a, ha, b, hb, rfl⟩
    exact ⟨a, ha, b, mem_flipUnion.2 (Or.inr hb), not_mem_left_of_nodup_append h hb, rfl⟩

theorem flip_region_boundary_iff {R I : List Nat} (h : (R ++ I).Nodup) (f : List Nat) :
    f ∈ cavityBoundary (flipOld R I) ↔ f ∈ cavityBoundary (flipNew R I) := by
  rw [mem_cavityBoundary_flipOld h, mem_cavityBoundary_flipNew h]

end DM
