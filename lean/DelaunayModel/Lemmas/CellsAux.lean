/-
Lemmas/CellsAux.lean — raw cell lists (`List (List Nat)`, the representation the three cell-set edits
of Model/Flip, Model/Cavity and Model/StarRemoval share): `without` as set difference (injective in
the omitted vertex, keeps sortedness, commutes with sorting); the facets of a cell and the degree
`facetCount` of a facet (additive, permutation invariant, a sum over the cells: `facetCount_eq_sum`,
`facetCount_map`; the facets of `U \ {w}` are the `U \ {w, x}`); the boundary `cavityBoundary` of a
set of cells = its facets of degree 1; `nodupB_iff`; and the one shape behind the three edits, "drop
the cells satisfying `p`, add the cells `B`" (`dropAdd`; a bistellar flip, a cavity insertion and a
star removal are each `dropAdd` by `rfl`): membership, the permutation that balances every additive
count (length, facet count), duplicate freeness, what a second edit undoes, and what the step
checkers observe (`stepRemoved`, `stepCreated`).  Core only (no Mathlib).
-/
import DelaunayModel.Model.Cavity
import DelaunayModel.Lemmas.CxAux
namespace DM

/-! ### lists -/

theorem count_map_on {α β : Type} [BEq α] [LawfulBEq α] [BEq β] [LawfulBEq β] {f : α → β}
    {l : List α} {a : α} (h : ∀ x ∈ l, f x = f a → x = a) : (l.map f).count (f a) = l.count a := by
  rw [List.count_eq_countP, List.countP_map, List.count_eq_countP]
  exact List.countP_congr fun x hx => by simpa using ⟨h x hx, congrArg f⟩

/-! ### `without` -/

theorem mem_without {U : List Nat} {x y : Nat} : y ∈ without U x ↔ y ∈ U ∧ y ≠ x := by
  simp [without]

theorem not_mem_without_self (U : List Nat) (x : Nat) : x ∉ without U x := by
  simp [mem_without]

theorem without_sublist (U : List Nat) (x : Nat) : (without U x).Sublist U := List.filter_sublist

theorem without_comm (U : List Nat) (a b : Nat) :
    without (without U a) b = without (without U b) a := by
  simp only [without, List.filter_filter]
  congr 1
  funext x
  exact Bool.and_comm _ _

/-- `w ↦ U \ {w}` is injective as soon as one of the two omitted vertices is in `U` -/
theorem without_inj {U : List Nat} {x y : Nat} (hx : x ∈ U) (h : without U x = without U y) :
    x = y := by
  apply Classical.byContradiction
  intro hne
  have : x ∈ without U y := mem_without.2 ⟨hx, hne⟩
  rw [← h] at this
  exact not_mem_without_self U x this

theorem without2_eq {U : List Nat} {w x a b : Nat} (hw : w ∈ U) (hx : x ∈ U) (hwx : w ≠ x)
    (h : without (without U w) x = without (without U a) b) :
    (w = a ∧ x = b) ∨ (w = b ∧ x = a) := by
  -- neither `w` nor `x` is left in `U \ {a, b}`, so each of them is `a` or `b`
  have key : ∀ y ∈ U, y ∉ without (without U w) x → y = a ∨ y = b := fun y hy hn =>
    Classical.or_iff_not_imp_left.2 fun ha => Classical.byContradiction fun hb =>
      hn (h ▸ mem_without.2 ⟨mem_without.2 ⟨hy, ha⟩, hb⟩)
  have h1 := key w hw fun hm => (mem_without.1 (mem_without.1 hm).1).2 rfl
  have h2 := key x hx (not_mem_without_self _ x)
  rcases h1 with h1 | h1
  · exact Or.inl ⟨h1, h2.resolve_left fun e => hwx (h1.trans e.symm)⟩
  · exact Or.inr ⟨h1, h2.resolve_right fun e => hwx (h1.trans e.symm)⟩

theorem map_without_nodup {U L : List Nat} (hL : L.Nodup) (hsub : ∀ x ∈ L, x ∈ U) :
    (L.map (without U)).Nodup :=
  nodup_map_on (fun a ha _ _ e => without_inj (hsub a ha) e) hL

theorem without_eq_self {c : List Nat} {x : Nat} (h : x ∉ c) : without c x = c :=
  List.filter_eq_self.2 fun a ha => by simpa using fun e : a = x => h (e ▸ ha)

theorem without_sortNat (l : List Nat) (x : Nat) :
    without (sortNat l) x = sortNat (without l x) := by
  apply sorted_perm_eq ((sortNat_sorted l).sublist (without_sublist _ x)) (sortNat_sorted _)
  have h1 : (without (sortNat l) x).Perm (without l x) := (sortNat_perm l).filter _
  exact h1.trans (sortNat_perm _).symm

theorem without_append (a b : List Nat) (x : Nat) :
    without (a ++ b) x = without a x ++ without b x := List.filter_append ..

theorem without_cons (a : Nat) (l : List Nat) (x : Nat) :
    without (a :: l) x = if a = x then without l x else a :: without l x := by
  by_cases h : a = x <;> simp [without, h]

/-! ### vertex set, star -/

theorem mem_vertexSet {cells : List (List Nat)} {v : Nat} :
    v ∈ vertexSet cells ↔ ∃ c ∈ cells, v ∈ c := by
  unfold vertexSet
  rw [← dedupL, mem_dedupL]
  simp

theorem not_mem_vertexSet {cells : List (List Nat)} {v : Nat} :
    v ∉ vertexSet cells ↔ ∀ c ∈ cells, v ∉ c := by
  rw [mem_vertexSet, not_exists]
  exact forall_congr' fun c => not_and

theorem mem_starOf {cells : List (List Nat)} {v : Nat} {c : List Nat} :
    c ∈ starOf cells v ↔ c ∈ cells ∧ v ∈ c := by
  simp [starOf]

/-! ### facets and their degree -/

theorem cellFacets_append (a b : List (List Nat)) :
    cellFacets (a ++ b) = cellFacets a ++ cellFacets b := by
  simp [cellFacets, List.flatMap_append]

theorem facetCount_append (a b : List (List Nat)) (f : List Nat) :
    facetCount (a ++ b) f = facetCount a f + facetCount b f := by
  simp [facetCount, cellFacets_append, List.count_append]

theorem facetCount_perm {a b : List (List Nat)} (h : a.Perm b) (f : List Nat) :
    facetCount a f = facetCount b f :=
  (List.Perm.flatMap_right _ h).count_eq f

theorem facetCount_eq_of_mem_iff {a b : List (List Nat)} (ha : a.Nodup) (hb : b.Nodup)
    (h : ∀ x, x ∈ a ↔ x ∈ b) (f : List Nat) : facetCount a f = facetCount b f :=
  facetCount_perm ((List.perm_ext_iff_of_nodup ha hb).2 h) f

theorem facetCount_nil (f : List Nat) : facetCount [] f = 0 := rfl

theorem facetCount_eq_sum (cells : List (List Nat)) (f : List Nat) :
    facetCount cells f = (cells.map fun c => (c.map (without c)).count f).sum := by
  unfold facetCount cellFacets
  rw [List.count_flatMap]
  rfl

theorem facetCount_map {α : Type} (L : List α) (g : α → List Nat) (f : List Nat) :
    facetCount (L.map g) f = (L.map fun a => ((g a).map (without (g a))).count f).sum := by
  rw [facetCount_eq_sum, List.map_map]
  rfl

theorem mem_cellFacets {cells : List (List Nat)} {f : List Nat} :
    f ∈ cellFacets cells ↔ ∃ c ∈ cells, ∃ x ∈ c, without c x = f := by
  simp [cellFacets, List.mem_flatMap]

theorem facetCount_eq_zero {cells : List (List Nat)} {f : List Nat} :
    facetCount cells f = 0 ↔ ∀ c ∈ cells, ∀ x ∈ c, without c x ≠ f := by
  unfold facetCount
  simp only [List.count_eq_zero, mem_cellFacets, not_exists, not_and, ne_eq]

theorem facetCount_pos_iff {cells : List (List Nat)} {f : List Nat} :
    0 < facetCount cells f ↔ f ∈ cellFacets cells :=
  List.count_pos_iff

/-- checking the bound on the facets that occur is decidable -/
theorem facetCount_le_of_forall_mem {cells : List (List Nat)} {n : Nat}
    (h : ∀ f ∈ cellFacets cells, facetCount cells f ≤ n) : ∀ f, facetCount cells f ≤ n := by
  intro f
  by_cases hf : f ∈ cellFacets cells
  · exact h f hf
  · unfold facetCount
    rw [List.count_eq_zero.2 hf]
    exact Nat.zero_le n

theorem facetCount_eq_zero_of_fresh {cells : List (List Nat)} {v : Nat} {f : List Nat}
    (hv : ∀ c ∈ cells, v ∉ c) (hf : v ∈ f) : facetCount cells f = 0 := by
  rw [facetCount_eq_zero]
  rintro c hc x _ rfl
  exact hv c hc ((without_sublist c x).subset hf)

theorem facets_nodup {c : List Nat} (hc : c.Nodup) : (c.map (without c)).Nodup :=
  map_without_nodup hc (fun _ h => h)

/-- the cell `U \ {w}` has the facet `U \ {a, b}` iff `w ∈ {a, b}` -/
theorem cell_facet_count {U : List Nat} (hU : U.Nodup) {w a b : Nat} (hw : w ∈ U) (ha : a ∈ U)
    (hb : b ∈ U) (hab : a ≠ b) :
    ((without U w).map (without (without U w))).count (without (without U a) b) =
      (if w = a then 1 else 0) + (if w = b then 1 else 0) := by
  have hmem : without (without U a) b ∈ (without U w).map (without (without U w)) ↔
      w = a ∨ w = b := by
    constructor
    · intro hm
      obtain ⟨x, hx, he⟩ := List.mem_map.1 hm
      obtain ⟨hxU, hxw⟩ := mem_without.1 hx
      exact (without2_eq hw hxU (Ne.symm hxw) he).imp And.left And.left
    · rintro (rfl | rfl)
      · exact List.mem_map.2 ⟨b, mem_without.2 ⟨hb, Ne.symm hab⟩, rfl⟩
      · exact List.mem_map.2 ⟨a, mem_without.2 ⟨ha, hab⟩, without_comm U w a⟩
  rw [(facets_nodup (hU.sublist (without_sublist U w))).count]
  by_cases hwa : w = a
  · rw [if_pos (hmem.2 (Or.inl hwa)), if_pos hwa, if_neg fun e => hab (hwa.symm.trans e)]
  · by_cases hwb : w = b
    · rw [if_pos (hmem.2 (Or.inr hwb)), if_neg hwa, if_pos hwb]
    · rw [if_neg fun h => (hmem.1 h).elim hwa hwb, if_neg hwa, if_neg hwb]

theorem facetCount_map_without {U L : List Nat} (hU : U.Nodup) (hsub : ∀ x ∈ L, x ∈ U)
    {a b : Nat} (ha : a ∈ U) (hb : b ∈ U) (hab : a ≠ b) :
    facetCount (L.map (without U)) (without (without U a) b) = L.count a + L.count b := by
  rw [facetCount_map, List.map_congr_left fun w hw => cell_facet_count hU (hsub w hw) ha hb hab,
    sum_map_add, sum_map_ite_eq, sum_map_ite_eq]

theorem facet_of_map_without {U L f : List Nat} (h : f ∈ cellFacets (L.map (without U))) :
    ∃ a ∈ L, ∃ b ∈ U, a ≠ b ∧ f = without (without U a) b := by
  obtain ⟨c, hc, x, hx, rfl⟩ := mem_cellFacets.1 h
  obtain ⟨a, ha, rfl⟩ := List.mem_map.1 hc
  obtain ⟨hxU, hxa⟩ := mem_without.1 hx
  exact ⟨a, ha, x, hxU, fun e => hxa e.symm, rfl⟩

theorem facetCount_map_without_eq_zero {U L f : List Nat} (hf : ¬ ∀ x ∈ f, x ∈ U) :
    facetCount (L.map (without U)) f = 0 := by
  refine Nat.eq_zero_of_not_pos fun h => hf ?_
  obtain ⟨a, _, b, _, _, rfl⟩ := facet_of_map_without (facetCount_pos_iff.1 h)
  exact fun y hy => (mem_without.1 (mem_without.1 hy).1).1

/-! ### the boundary: facets of degree 1 -/

theorem cavityBoundary_nodup (C : List (List Nat)) : (cavityBoundary C).Nodup :=
  filter_count_one_nodup (cellFacets C) _ (fun a h => by simpa using h)

theorem mem_cavityBoundary {C : List (List Nat)} {f : List Nat} :
    f ∈ cavityBoundary C ↔ facetCount C f = 1 := by
  unfold cavityBoundary facetCount
  rw [List.mem_filter, beq_iff_eq]
  exact ⟨And.right, fun h => ⟨List.count_pos_iff.1 (h ▸ Nat.one_pos), h⟩⟩

theorem cavityBoundary_facet_of {C : List (List Nat)} {f : List Nat} (h : f ∈ cavityBoundary C) :
    ∃ c ∈ C, ∃ x ∈ c, without c x = f :=
  mem_cellFacets.1 (List.mem_filter.1 h).1

theorem cavityBoundary_lt_sorted {C : List (List Nat)} (hC : ∀ c ∈ C, c.Pairwise (· < ·)) :
    ∀ f ∈ cavityBoundary C, f.Pairwise (· < ·) := by
  intro f hf
  obtain ⟨c, hc, x, _, rfl⟩ := cavityBoundary_facet_of hf
  exact (hC c hc).sublist (without_sublist c x)

theorem cavityBoundary_fresh {C : List (List Nat)} {v : Nat} (hv : ∀ c ∈ C, v ∉ c) :
    ∀ f ∈ cavityBoundary C, v ∉ f := by
  intro f hf hm
  obtain ⟨c, hc, x, _, rfl⟩ := cavityBoundary_facet_of hf
  exact hv c hc ((without_sublist c x).subset hm)

theorem cavityBoundary_sub_ok {cells C : List (List Nat)} {v : Nat}
    (hs : ∀ c ∈ cells, c.Pairwise (· < ·)) (hsub : ∀ c ∈ C, c ∈ cells)
    (hfresh : ∀ c ∈ cells, v ∉ c) :
    (∀ f ∈ cavityBoundary C, f.Pairwise (· < ·)) ∧ ∀ f ∈ cavityBoundary C, v ∉ f :=
  ⟨cavityBoundary_lt_sorted fun c hc => hs c (hsub c hc),
    cavityBoundary_fresh fun c hc => hfresh c (hsub c hc)⟩

/-- the boundary of the cells `U \ {a}`, `a ∈ L`: the `U \ {a, b}` with `a` in `L` and `b` not -/
theorem mem_cavityBoundary_map_without {U L f : List Nat} (hU : U.Nodup) (hL : L.Nodup)
    (hsub : ∀ x ∈ L, x ∈ U) :
    f ∈ cavityBoundary (L.map (without U)) ↔
      ∃ a ∈ L, ∃ b ∈ U, b ∉ L ∧ f = without (without U a) b := by
  rw [mem_cavityBoundary]
  constructor
  · intro h1
    obtain ⟨a, ha, b, hb, hab, rfl⟩ :=
      facet_of_map_without (facetCount_pos_iff.1 (Nat.lt_of_lt_of_eq Nat.one_pos h1.symm))
    rw [facetCount_map_without hU hsub (hsub a ha) hb hab, hL.count, if_pos ha] at h1
    exact ⟨a, ha, b, hb, List.count_eq_zero.1 (Nat.add_left_cancel (k := 0) h1), rfl⟩
  · rintro ⟨a, ha, b, hb, hbL, rfl⟩
    rw [facetCount_map_without hU hsub (hsub a ha) hb fun e => hbL (e ▸ ha), hL.count, if_pos ha,
      List.count_eq_zero.2 hbL]

theorem cellFacets_single (c : List Nat) : cellFacets [c] = c.map (without c) := by
  simp [cellFacets]

theorem cavityBoundary_single {c : List Nat} (hc : c.Nodup) :
    cavityBoundary [c] = c.map (without c) := by
  unfold cavityBoundary
  rw [cellFacets_single]
  rw [List.filter_eq_self]
  intro f hf
  have := (facets_nodup hc).count (a := f)
  rw [if_pos hf] at this
  simpa using this

theorem mem_cavityBoundary_single {c f : List Nat} (hc : c.Nodup) :
    f ∈ cavityBoundary [c] ↔ ∃ x ∈ c, without c x = f := by
  rw [cavityBoundary_single hc, List.mem_map]

theorem facetCount_single_facet {c : List Nat} (hc : c.Nodup) {x : Nat} (hx : x ∈ c) :
    facetCount [c] (without c x) = 1 :=
  mem_cavityBoundary.1 ((mem_cavityBoundary_single hc).2 ⟨x, hx, rfl⟩)

/-! ### the Boolean duplicate test of the step checkers -/

theorem nodupB_iff (l : List (List Nat)) : nodupB l = true ↔ l.Nodup := by
  induction l with
  | nil => simp [nodupB]
  | cons x xs ih =>
    rw [nodupB, Bool.and_eq_true, ih, List.nodup_cons]
    simp

/-! ### drop and add -/

/-- drop the cells satisfying `p`, add the cells `B`: the common shape of `flipCells`,
`cavityInsertWith` (`p := A.contains`) and `starFill` (`p := (·.contains v)`), each by `rfl`
(`flipCells_eq_dropAdd`, `cavityInsertWith_eq_dropAdd`, `starFill_eq_dropAdd`) -/
def dropAdd (cells : List (List Nat)) (p : List Nat → Bool) (B : List (List Nat)) :
    List (List Nat) :=
  cells.filter (fun c => !p c) ++ B

theorem mem_dropAdd {cells B : List (List Nat)} {p : List Nat → Bool} {x : List Nat} :
    x ∈ dropAdd cells p B ↔ (x ∈ cells ∧ p x = false) ∨ x ∈ B := by
  simp [dropAdd]

/-- what goes out and what comes in, as one permutation; every additive count follows -/
theorem dropAdd_perm (cells : List (List Nat)) (p : List Nat → Bool) (B : List (List Nat)) :
    (dropAdd cells p B ++ cells.filter p).Perm (cells ++ B) := by
  -- (kept ++ B) ++ dropped ~ dropped ++ (kept ++ B) = (dropped ++ kept) ++ B ~ cells ++ B
  refine List.perm_append_comm.trans ?_
  rw [dropAdd, ← List.append_assoc]
  exact (List.filter_append_perm p cells).append_right B

theorem length_dropAdd (cells : List (List Nat)) (p : List Nat → Bool) (B : List (List Nat)) :
    (dropAdd cells p B).length + (cells.filter p).length = cells.length + B.length := by
  simpa using (dropAdd_perm cells p B).length_eq

theorem facetCount_dropAdd (cells : List (List Nat)) (p : List Nat → Bool) (B : List (List Nat))
    (f : List Nat) :
    facetCount (dropAdd cells p B) f + facetCount (cells.filter p) f =
      facetCount cells f + facetCount B f := by
  simpa [facetCount_append] using facetCount_perm (dropAdd_perm cells p B) f

theorem dropAdd_nodup {cells B : List (List Nat)} {p : List Nat → Bool} (hnd : cells.Nodup)
    (hB : B.Nodup) (hdis : ∀ b ∈ B, b ∈ cells → p b = true) : (dropAdd cells p B).Nodup := by
  refine List.nodup_append.2 ⟨hnd.sublist List.filter_sublist, hB, ?_⟩
  rintro a ha b hb rfl
  have := List.mem_filter.1 ha
  simp [hdis a hb this.1] at this

theorem filter_dropAdd_added {cells B : List (List Nat)} {q : List Nat → Bool} (p : List Nat → Bool)
    (hk : ∀ c ∈ cells, q c = false) (hB : ∀ b ∈ B, q b = true) :
    (dropAdd cells p B).filter q = B := by
  have h1 : (cells.filter (fun c => !p c)).filter q = [] :=
    List.filter_eq_nil_iff.2 fun c hc => by simp [hk c (List.mem_filter.1 hc).1]
  rw [dropAdd, List.filter_append, h1, List.filter_eq_self.2 hB, List.nil_append]

theorem filter_dropAdd_kept {cells B : List (List Nat)} {q : List Nat → Bool} (p : List Nat → Bool)
    (hk : ∀ c ∈ cells, q c = false) (hB : ∀ b ∈ B, q b = true) :
    (dropAdd cells p B).filter (fun c => !q c) = cells.filter (fun c => !p c) := by
  have h1 : (cells.filter (fun c => !p c)).filter (fun c => !q c) = cells.filter (fun c => !p c) :=
    List.filter_eq_self.2 fun c hc => by simp [hk c (List.mem_filter.1 hc).1]
  have h2 : B.filter (fun c => !q c) = [] := List.filter_eq_nil_iff.2 fun b hb => by simp [hB b hb]
  rw [dropAdd, List.filter_append, h1, h2, List.append_nil]

/-- a second edit that drops exactly the added cells undoes the first one -/
theorem dropAdd_dropAdd {cells B : List (List Nat)} {q : List Nat → Bool} (p : List Nat → Bool)
    (A : List (List Nat)) (hk : ∀ c ∈ cells, q c = false) (hB : ∀ b ∈ B, q b = true) :
    dropAdd (dropAdd cells p B) q A = dropAdd cells p A := by
  rw [dropAdd, filter_dropAdd_kept p hk hB, dropAdd]

theorem mem_stepRemoved {pre post : List (List Nat)} {c : List Nat} :
    c ∈ stepRemoved pre post ↔ c ∈ pre ∧ c ∉ post := by
  simp [stepRemoved]

theorem mem_stepCreated {pre post : List (List Nat)} {c : List Nat} :
    c ∈ stepCreated pre post ↔ c ∈ post ∧ c ∉ pre := by
  simp [stepCreated]

theorem stepCreated_dropAdd {cells B : List (List Nat)} (p : List Nat → Bool)
    (hB : ∀ b ∈ B, b ∉ cells) : stepCreated cells (dropAdd cells p B) = B :=
  filter_dropAdd_added p (fun c hc => by simp [hc]) (fun b hb => by simpa using hB b hb)

theorem stepRemoved_dropAdd {cells B : List (List Nat)} (p : List Nat → Bool)
    (hB : ∀ b ∈ B, b ∉ cells) : stepRemoved cells (dropAdd cells p B) = cells.filter p := by
  refine List.filter_congr fun c hc => ?_
  have : c ∉ B := fun h => hB c h hc
  cases h : p c <;> simp [mem_dropAdd, hc, this, h]

theorem dropAdd_congr {cells : List (List Nat)} {p q : List Nat → Bool}
    (h : ∀ c ∈ cells, p c = q c) (B : List (List Nat)) : dropAdd cells p B = dropAdd cells q B := by
  unfold dropAdd
  rw [List.filter_congr fun c hc => congrArg (!·) (h c hc)]

/-- the dropped cells may be given as a list: dropping the cells of `cells.filter p` is dropping
by `p` (so an edit is recovered from the removed cells that a step checker observes) -/
theorem dropAdd_filter_contains (cells : List (List Nat)) (p : List Nat → Bool)
    (B : List (List Nat)) : dropAdd cells (cells.filter p).contains B = dropAdd cells p B :=
  dropAdd_congr (fun c hc => by simp [hc]) B

theorem length_replace {cells A : List (List Nat)} (B : List (List Nat)) (hnd : cells.Nodup)
    (hA : A.Nodup) (hsub : ∀ a ∈ A, a ∈ cells) :
    (dropAdd cells A.contains B).length + A.length = cells.length + B.length := by
  rw [← (filter_contains_perm hnd hA hsub).length_eq]
  exact length_dropAdd cells _ B

theorem facetCount_replace {cells A : List (List Nat)} (B : List (List Nat)) (hnd : cells.Nodup)
    (hA : A.Nodup) (hsub : ∀ a ∈ A, a ∈ cells) (f : List Nat) :
    facetCount (dropAdd cells A.contains B) f + facetCount A f =
      facetCount cells f + facetCount B f := by
  rw [← facetCount_perm (filter_contains_perm hnd hA hsub) f]
  exact facetCount_dropAdd cells _ B f

end DM
