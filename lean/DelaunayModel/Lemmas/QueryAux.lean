/-
Lemmas/QueryAux.lean — helper lemmas for Props/C15.lean (topology / adjacency queries):
 * the edges of a cell are its 2-vertex faces written as pairs (`toPair`, `cellEdges_eq_map`; with
   `dedupL_map` of Lemmas/ListAux.lean this carries over to `allEdges`),
 * `bucketPush` / `bucketGet` association-list laws and the fold invariants of the adjacency index,
 * the alternating sum `eulerChi` (`altSum`, `altSum_cons`, `altSum_succ`),
 * the facet incidences `allFacets K`: their number, `boundaryFacets` as a filter of the key list.
Core only (no Mathlib).
-/
import DelaunayModel.Model.Adjacency
import DelaunayModel.Lemmas.CxAux
namespace DM

/-! ### edges as 2-vertex faces -/

/-- a 2-element list as a pair (the conversion inside `cellEdges` is partial; on the 2-vertex faces
it is this total one) -/
def toPair (e : List Nat) : Nat × Nat := (e.getD 0 0, e.getD 1 0)

theorem pairOf_of_length : ∀ {e : List Nat}, e.length = 2 →
    (match e with | [x, y] => some (x, y) | _ => none) = some (toPair e)
  | [_, _], _ => rfl

theorem toPair_inj {e e' : List Nat} (h : e.length = 2) (h' : e'.length = 2)
    (he : toPair e = toPair e') : e = e' := by
  match e, h, e', h' with
  | [a, b], _, [a', b'], _ =>
    simp only [toPair, List.getD_cons_zero, List.getD_cons_succ, Prod.mk.injEq] at he
    rw [he.1, he.2]

theorem cellEdges_eq_map (c : Cell) : cellEdges c = (subsetsK 2 (cellKey c)).map toPair :=
  filterMap_eq_map_of _ _ _ (fun _ he => pairOf_of_length (subsetsK_length he))

/-! ### association-list buckets -/

theorem bucketGet_nil {α : Type} (k : Nat) : bucketGet ([] : List (Nat × List α)) k = [] := rfl

theorem bucketGet_cons {α : Type} (k' : Nat) (xs : List α) (rest : List (Nat × List α)) (k : Nat) :
    bucketGet ((k', xs) :: rest) k = if k = k' then xs else bucketGet rest k := by
  unfold bucketGet
  rw [List.lookup_cons]
  by_cases h : k = k'
  · simp [h]
  · have : (k == k') = false := by simpa using h
    simp [this, h]

theorem bucketGet_bucketPush_same {α : Type} (m : List (Nat × List α)) (k : Nat) (x : α) :
    bucketGet (bucketPush m k x) k = bucketGet m k ++ [x] := by
  induction m with
  | nil => simp [bucketPush, bucketGet_cons, bucketGet_nil]
  | cons p rest ih =>
    obtain ⟨k', xs⟩ := p
    unfold bucketPush
    by_cases h : k' = k
    · subst h
      simp [bucketGet_cons]
    · have h' : k ≠ k' := fun e => h e.symm
      have hb : (k' == k) = false := by simpa using h
      simp only [hb, Bool.false_eq_true, ↓reduceIte, bucketGet_cons, h', ih]

theorem bucketGet_bucketPush_other {α : Type} (m : List (Nat × List α)) (k k' : Nat) (x : α)
    (hne : k' ≠ k) : bucketGet (bucketPush m k x) k' = bucketGet m k' := by
  induction m with
  | nil => simp [bucketPush, bucketGet_cons, bucketGet_nil, hne]
  | cons p rest ih =>
    obtain ⟨k'', xs⟩ := p
    unfold bucketPush
    by_cases h : k'' = k
    · subst h
      simp [bucketGet_cons, hne]
    · have hb : (k'' == k) = false := by simpa using h
      simp only [hb, Bool.false_eq_true, ↓reduceIte, bucketGet_cons, ih]

/-- pushing the same value for every slot of a vertex list: bucket `v` grows by one copy per
occurrence of `v` -/
theorem bucketGet_foldl_push {α : Type} (vs : List Nat) (m : List (Nat × List α)) (i : α) (v : Nat) :
    bucketGet (vs.foldl (fun m u => bucketPush m u i) m) v =
      bucketGet m v ++ List.replicate (vs.count v) i := by
  induction vs generalizing m with
  | nil => simp
  | cons u us ih =>
    rw [List.foldl_cons, ih]
    by_cases h : v = u
    · subst h
      rw [bucketGet_bucketPush_same, List.count_cons_self, List.replicate_succ, List.append_assoc]
      rfl
    · rw [bucketGet_bucketPush_other _ _ _ _ h, List.count_cons_of_ne (fun e => h e.symm)]

/-! ### alternating sum -/

/-- signed term of the alternating sum -/
def altTerm (p : Nat × Nat) : Int := if p.2 % 2 == 0 then (p.1 : Int) else -(p.1 : Int)

def altSum (f : List Nat) (i : Nat) : Int := ((f.zipIdx i).map altTerm).foldl (· + ·) 0

theorem eulerChi_eq_altSum (f : List Nat) : eulerChi f = altSum f 0 := rfl

theorem altSum_nil (i : Nat) : altSum [] i = 0 := rfl

theorem altSum_cons (a : Nat) (f : List Nat) (i : Nat) :
    altSum (a :: f) i = altTerm (a, i) + altSum f (i + 1) := by
  simp only [altSum, ← List.sum_eq_foldl, List.zipIdx_cons, List.map_cons, List.sum_cons]

theorem altTerm_succ (a i : Nat) : altTerm (a, i + 1) = - altTerm (a, i) := by
  unfold altTerm
  rcases Nat.mod_two_eq_zero_or_one i with h | h <;> simp [Nat.add_mod, h]

theorem altSum_succ (f : List Nat) (i : Nat) : altSum f (i + 1) = - altSum f i := by
  induction f generalizing i with
  | nil => simp [altSum_nil]
  | cons a f ih =>
    rw [altSum_cons, altSum_cons, ih (i + 1), altTerm_succ]
    omega

/-! ### the facet incidences -/

theorem boundaryFacets_eq_filter (K : Cx) :
    boundaryFacets K = ((allFacets K).map (·.1)).filter (fun k => facetDeg K k == 1) := by
  unfold boundaryFacets
  rw [List.filter_map]
  rfl

theorem facetsOf_length (cells : List Cell) (n : Nat) (hlen : ∀ c ∈ cells, c.vs.length = n) :
    (facetsOf cells).length = n * cells.length := by
  have hrow : ∀ c ∈ cells, ((List.range c.vs.length).map fun i => (facetKey c i, c.id, i)).length = n :=
    fun c hc => by rw [List.length_map, List.length_range, hlen c hc]
  rw [facetsOf, length_flatMap_const _ _ n hrow, Nat.mul_comm]

end DM
