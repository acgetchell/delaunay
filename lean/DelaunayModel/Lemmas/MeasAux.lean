/-
Lemmas/MeasAux.lean — helper lemmas about Model/Measures.lean (exact simplex measures) for
Props/C18 and, through the edge vectors `edges0`, for Lemmas/LiftedAux.  Points are read as the
rows of a matrix (`Simplex.exists_rowsOf`), and `rowsOf` is pushed through `orientRows`, `edges0`,
`gram` and scaling; then Mathlib's `Matrix.det` lemmas apply through `det_rowsOf`.  The orientation
matrix is the point matrix with a column of ones appended; subtracting row 0 and expanding along
that column (`det_ones_col`) leaves the edge matrix `edgeMat` (`orientDet_eq_edges`).
-/
import DelaunayModel.Model.Measures
import DelaunayModel.Lemmas.DetBridge

namespace DM.Measures

open DM

/-! ### `dot` on `List.ofFn` -/

theorem dot_cons (a b : Int) (p q : IPt) : dot (a :: p) (b :: q) = a * b + dot p q := by
  simp only [dot, List.zipWith_cons_cons, ← List.sum_eq_foldl, List.sum_cons]

theorem dot_ofFn : ∀ {n : Nat} (f g : Fin n → ℤ), dot (List.ofFn f) (List.ofFn g) = ∑ k, f k * g k
  | 0, f, g => by simp [dot]
  | n + 1, f, g => by
    rw [List.ofFn_succ, List.ofFn_succ, dot_cons, dot_ofFn, Fin.sum_univ_succ]

/-! ### `rowsOf` through the matrices of Model/Measures -/

def edgeMat {n m : Nat} (P : Matrix (Fin (n + 1)) (Fin m) ℤ) : Matrix (Fin n) (Fin m) ℤ :=
  Matrix.of fun i j => P i.succ j - P 0 j

theorem edges0_rowsOf {n m : Nat} (P : Matrix (Fin (n + 1)) (Fin m) ℤ) :
    edges0 (rowsOf P) = rowsOf (edgeMat P) := by
  rw [rowsOf_succ]
  simp only [edges0, rowsOf, List.map_ofFn]
  exact congrArg List.ofFn (funext fun i => zipWith_ofFn _ _ _)

theorem orientRows_rowsOf {n m : Nat} (P : Matrix (Fin n) (Fin m) ℤ) :
    orientRows (rowsOf P) = rowsOf (Matrix.of fun i => (Fin.snoc (P i) 1 : Fin (m + 1) → ℤ)) := by
  simp only [orientRows, rowsOf, List.map_ofFn]
  exact congrArg List.ofFn (funext fun i => (ofFn_snoc _ _).symm)

theorem gram_rowsOf {n m : Nat} (E : Matrix (Fin n) (Fin m) ℤ) :
    gram (rowsOf E) = rowsOf (E * E.transpose) := by
  simp only [gram, rowsOf, List.map_ofFn]
  exact congrArg List.ofFn (funext fun i => congrArg List.ofFn (funext fun j => dot_ofFn _ _))

theorem map_smul_rowsOf {n m : Nat} (k : Int) (M : Matrix (Fin n) (Fin m) ℤ) :
    (rowsOf M).map (fun e => e.map (k * ·)) = rowsOf (k • M) := by
  simp only [rowsOf, List.map_ofFn]
  exact congrArg List.ofFn (funext fun i => List.map_ofFn)

/-- **A column of ones appended: subtract row `0` from every other row and expand along that
column**, which leaves the edge matrix. -/
theorem det_ones_col {n : Nat} (P : Matrix (Fin (n + 1)) (Fin n) ℤ) :
    (Matrix.of fun i => (Fin.snoc (P i) 1 : Fin (n + 1) → ℤ)).det = (-1) ^ n * (edgeMat P).det := by
  let A : Matrix (Fin (n + 1)) (Fin (n + 1)) ℤ := Matrix.of fun i => Fin.snoc (P i) 1
  let B : Matrix (Fin (n + 1)) (Fin (n + 1)) ℤ :=
    Matrix.of fun i j => if i = 0 then A 0 j else A i j - A 0 j
  have hdet : A.det = B.det := by
    apply Matrix.det_eq_of_forall_row_eq_smul_add_const (fun i => if i = 0 then 0 else 1) 0 (by simp)
    intro i j
    by_cases hi : i = 0 <;> simp [B, hi]
  have hrest : ∀ i : Fin n, B i.succ (Fin.last n) = 0 := fun i => by simp [A, B, Fin.succ_ne_zero]
  have h0 : B 0 (Fin.last n) = 1 := by simp [A, B]
  have hminor : B.submatrix Fin.succ Fin.castSucc = edgeMat P := by
    ext i j; simp [A, B, edgeMat, Fin.succ_ne_zero]
  show A.det = _
  rw [hdet, Matrix.det_succ_column B (Fin.last n), Fin.sum_univ_succ]
  simp only [hrest, h0, mul_zero, zero_mul, Finset.sum_const_zero, add_zero, mul_one,
    Fin.val_zero, Fin.val_last, zero_add, Fin.succAbove_zero, Fin.succAbove_last, hminor]

theorem orientDet_eq_edges {D : Nat} {s : List IPt} (h : Simplex D s) :
    orientDet s = (-1) ^ D * det (edges0 s) := by
  obtain ⟨P, rfl⟩ := h.exists_rowsOf
  rw [orientDet, orientRows_rowsOf, edges0_rowsOf, det_rowsOf, det_rowsOf, det_ones_col]

theorem square_edges0 {D : Nat} {s : List IPt} (h : Simplex D s) : Square D (edges0 s) := by
  obtain ⟨P, rfl⟩ := h.exists_rowsOf
  rw [edges0_rowsOf]
  exact square_rowsOf _

theorem det_scale {n : Nat} {E : List (List Int)} (k : Int) (h : Square n E) :
    det (E.map (fun e => e.map (k * ·))) = k ^ n * det E := by
  obtain ⟨M, rfl⟩ := h.exists_rowsOf
  rw [map_smul_rowsOf, det_rowsOf, det_rowsOf, Matrix.det_smul, Fintype.card_fin]

/-! ### translation and scaling of the points -/

theorem sub_vadd {D : Nat} (t p q : IPt) (ht : t.length = D) (hp : p.length = D)
    (hq : q.length = D) : sub (vadd p t) (vadd q t) = sub p q := by
  apply List.ext_getElem
  · simp [sub, vadd, ht, hp, hq]
  · intro i h1 h2
    simp only [sub, vadd, List.getElem_zipWith]
    omega

/-- a map of the points that acts on differences (`f p − f q = g (p − q)`) acts on the edge vectors -/
theorem edges0_map {f g : IPt → IPt} {s : List IPt}
    (h : ∀ p ∈ s, ∀ q ∈ s, sub (f p) (f q) = g (sub p q)) :
    edges0 (s.map f) = (edges0 s).map g := by
  match s, h with
  | [], _ => rfl
  | p0 :: rest, h =>
    simp only [List.map_cons, edges0, List.map_map]
    exact List.map_congr_left fun p hp => h p (List.mem_cons_of_mem _ hp) p0 List.mem_cons_self

theorem edges0_translate {D : Nat} (t : IPt) (s : List IPt) (ht : t.length = D)
    (hs : ∀ p ∈ s, p.length = D) : edges0 (s.map (vadd · t)) = edges0 s :=
  (edges0_map (g := id) fun p hp q hq => sub_vadd t p q ht (hs p hp) (hs q hq)).trans
    (List.map_id _)

theorem sub_scale (k : Int) (p q : IPt) :
    sub (p.map (k * ·)) (q.map (k * ·)) = (sub p q).map (k * ·) := by
  simp only [sub, List.zipWith_map, List.map_zipWith, Int.mul_sub]

theorem edges0_scale (k : Int) (s : List IPt) :
    edges0 (s.map (fun p => p.map (k * ·))) = (edges0 s).map (fun e => e.map (k * ·)) :=
  edges0_map fun p _ q _ => sub_scale k p q

end DM.Measures
