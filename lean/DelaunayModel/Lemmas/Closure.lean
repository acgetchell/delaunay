/-
Lemmas/Closure.lean — the one idea behind `reachFuel` (cells through neighbour pointers) and
`graphReach` (vertices through edges): repeat a round that only prepends new, distinct entries until
a round adds nothing; inside a bounding list `B` that takes at most `B.length` rounds, and what
comes out is the least set containing the start that is closed under the relation `R` the round
follows (`Round.isClosure`); it fills `B` iff `B` is duplicate-free and all of it is reachable
(`IsClosure.length_eq_iff`).  Both rounds are one sweep over a list that pushes an entry when a
condition holds (`pushNew`, `Round.of_pushes`).  Core only.
-/
import DelaunayModel.Lemmas.ListAux
namespace DM

/-- `reachFuel K` and `graphReach es` are this with `step := reachStep K`, `gRound es` -/
def growFuel {α : Type} (step : List α → List α) : Nat → List α → List α
  | 0, s => s
  | f+1, s => if (step s).length == s.length then s else growFuel step f (step s)

structure Round {α : Type} (R : α → α → Prop) (step : List α → List α) : Prop where
  suffix : ∀ s, s <:+ step s
  nodup : ∀ s, s.Nodup → (step s).Nodup
  /-- a round stays inside every `R`-closed set -/
  sound : ∀ (Q : α → Prop), (∀ a b, Q a → R a b → Q b) → ∀ s, (∀ x ∈ s, Q x) → ∀ x ∈ step s, Q x
  /-- a round that adds nothing was given an `R`-closed list -/
  complete : ∀ s, step s = s → ∀ a b, a ∈ s → R a b → b ∈ s

/-- `r` is the set of everything `R`-reachable from `v`, listed once -/
structure IsClosure {α : Type} (R : α → α → Prop) (v : α) (r : List α) : Prop where
  nodup : r.Nodup
  start : v ∈ r
  closed : ∀ a b, a ∈ r → R a b → b ∈ r
  least : ∀ (Q : α → Prop), Q v → (∀ a b, Q a → R a b → Q b) → ∀ x ∈ r, Q x

theorem growFuel_induct {α : Type} (step : List α → List α) (P : List α → Prop)
    (hstep : ∀ s, P s → P (step s)) (f : Nat) (s : List α) (h : P s) : P (growFuel step f s) := by
  induction f generalizing s with
  | zero => exact h
  | succ f ih =>
    unfold growFuel
    split
    · exact h
    · exact ih _ (hstep _ h)

section
variable {α : Type} {R : α → α → Prop} {step : List α → List α}

/-- every productive round adds an entry, and a duplicate-free list inside `B` has at most
`B.length` entries: with `B.length < s.length + f` the iteration ends in a round that adds nothing -/
theorem Round.growFuel_fix (h : Round R step) {B : List α} (hB : ∀ a b, a ∈ B → R a b → b ∈ B)
    (f : Nat) (s : List α) (hnd : s.Nodup) (hs : s ⊆ B) (hf : B.length < s.length + f) :
    step (growFuel step f s) = growFuel step f s := by
  induction f generalizing s with
  | zero => exact absurd (hnd.length_le_of_subset hs) (by omega)
  | succ f ih =>
    unfold growFuel
    split
    · rename_i hl
      exact ((h.suffix s).eq_of_length (beq_iff_eq.1 hl).symm).symm
    · rename_i hl
      have := (h.suffix s).length_le
      have hne : (step s).length ≠ s.length := fun e => hl (beq_iff_eq.2 e)
      exact ih _ (h.nodup s hnd) (h.sound (· ∈ B) hB s hs) (by omega)

theorem Round.congr {step' : List α → List α} (h : Round R step) (he : ∀ s, step' s = step s) :
    Round R step' :=
  (funext he : step' = step) ▸ h

theorem Round.growFuel_sound (h : Round R step) (Q : α → Prop) (hQ : ∀ a b, Q a → R a b → Q b)
    (f : Nat) (s : List α) (hs : ∀ x ∈ s, Q x) : ∀ x ∈ growFuel step f s, Q x :=
  growFuel_induct step (∀ x ∈ ·, Q x) (h.sound Q hQ) f s hs

theorem Round.isClosure (h : Round R step) {B : List α} (hB : ∀ a b, a ∈ B → R a b → b ∈ B)
    {v : α} (hv : v ∈ B) {f : Nat} (hf : B.length ≤ f) : IsClosure R v (growFuel step f [v]) where
  nodup := growFuel_induct step List.Nodup h.nodup f [v] (List.pairwise_singleton _ v)
  start := (growFuel_induct step ([v] <:+ ·) (fun s hs => hs.trans (h.suffix s)) f [v]
    (List.suffix_refl _)).subset List.mem_cons_self
  closed := h.complete _ (h.growFuel_fix hB f [v] (List.pairwise_singleton _ v)
    (fun x hx => List.mem_singleton.1 hx ▸ hv) (by simp only [List.length_singleton]; omega))
  least Q hQv hQ := h.growFuel_sound Q hQ f [v] (fun x hx => List.mem_singleton.1 hx ▸ hQv)

/-- the closure of `v` inside `B` fills `B` iff `B` is duplicate-free and everything in it is
reachable: the shape of `connected`, `graphConnected` and `linkSkeletonConnected` -/
theorem IsClosure.length_eq_iff [DecidableEq α] {v : α} {r B : List α} (hr : IsClosure R v r)
    (hv : v ∈ B) (hB : ∀ a b, a ∈ B → R a b → b ∈ B) :
    r.length = B.length ↔ B.Nodup ∧ B ⊆ r :=
  length_eq_iff_of_nodup_subset hr.nodup (hr.least (· ∈ B) hv hB)

end

/-- prepend `x` if `b` holds and `x` is not there yet: the step of both `reachStep` and
`graphReach` -/
def pushNew {α : Type} [BEq α] (b : Bool) (x : α) (s : List α) : List α :=
  if b && !s.contains x then x :: s else s

/-- the same written as `reachStep` writes it -/
theorem pushNew_eq_ite {α : Type} [BEq α] (b : Bool) (x : α) (s : List α) :
    pushNew b x s = if s.contains x then s else if b then x :: s else s := by
  unfold pushNew
  cases b <;> cases s.contains x <;> rfl

theorem mem_pushNew {α : Type} [BEq α] [LawfulBEq α] {b : Bool} {x y : α} {s : List α} :
    y ∈ pushNew b x s ↔ y ∈ s ∨ (b = true ∧ y = x) := by
  rw [pushNew_eq_ite]
  by_cases hx : s.contains x = true
  · rw [if_pos hx]
    exact ⟨Or.inl, fun h => h.elim id (fun h => h.2 ▸ List.contains_iff_mem.1 hx)⟩
  · rw [if_neg hx]
    cases b with
    | true => exact List.mem_cons.trans ⟨fun h => h.elim (fun e => Or.inr ⟨rfl, e⟩) Or.inl,
        fun h => h.elim Or.inr (fun h => Or.inl h.2)⟩
    | false => exact ⟨Or.inl, fun h => h.elim id (fun h => absurd h.1 Bool.false_ne_true)⟩

theorem pushNew_suffix {α : Type} [BEq α] (b : Bool) (x : α) (s : List α) :
    s <:+ pushNew b x s := by
  unfold pushNew
  split
  · exact List.suffix_cons _ _
  · exact List.suffix_refl _

theorem pushNew_nodup {α : Type} [BEq α] [LawfulBEq α] (b : Bool) (x : α) {s : List α}
    (h : s.Nodup) : (pushNew b x s).Nodup := by
  unfold pushNew
  split
  · rename_i hc
    rw [Bool.and_eq_true, Bool.not_eq_true', ← Bool.not_eq_true, List.contains_iff_mem] at hc
    exact List.nodup_cons.2 ⟨hc.2, h⟩
  · exact h

theorem foldl_fix {α β : Type} (g : List α → β → List α) (hg : ∀ acc y, acc <:+ g acc y)
    (ys : List β) (s : List α) (h : ys.foldl g s = s) : ∀ y ∈ ys, g s y = s := by
  induction ys with
  | nil => intro y hy; cases hy
  | cons y ys ih =>
    have hsuf : g s y <:+ ys.foldl g (g s y) :=
      List.foldlRecOn (motive := (g s y <:+ ·)) ys g (List.suffix_refl _) fun acc ha z _ =>
        ha.trans (hg acc z)
    have hle := hsuf.length_le
    rw [show ys.foldl g (g s y) = s from h] at hle
    have h1 : g s y = s := ((hg s y).eq_of_length_le hle).symm
    rw [List.foldl_cons, h1] at h
    intro z hz
    rcases List.mem_cons.1 hz with rfl | hz
    · exact h1
    · exact ih h z hz

theorem mem_foldl_pushNew {α β : Type} [BEq α] [LawfulBEq α] (ys : List β) (c : β → Bool)
    (tgt : β → α) (s : List α) (x : α) :
    x ∈ ys.foldl (fun acc y => pushNew (c y) (tgt y) acc) s ↔
      x ∈ s ∨ ∃ y ∈ ys, c y = true ∧ x = tgt y := by
  induction ys generalizing s with
  | nil => simp
  | cons y ys ih =>
    rw [List.foldl_cons, ih, mem_pushNew, or_assoc]
    simp only [List.mem_cons, exists_eq_or_imp]

/-- a sweep over `ys` that pushes `tgt y` when `cond` holds (`cond` may look at the list the round
started from and at the running list) is a round for `R` if `cond` is justified by an `R`-step
from an entry present, and every `R`-step out of the start list is offered by some `y` -/
theorem Round.of_pushes {α β : Type} [BEq α] [LawfulBEq α] {R : α → α → Prop} (ys : List β)
    (cond : List α → List α → β → Bool) (tgt : β → α)
    (hsound : ∀ s acc y, s ⊆ acc → y ∈ ys → cond s acc y = true → ∃ a ∈ acc, R a (tgt y))
    (hcomplete : ∀ s a b, a ∈ s → R a b → ∃ y ∈ ys, cond s s y = true ∧ tgt y = b) :
    Round R (fun s => ys.foldl (fun acc y => pushNew (cond s acc y) (tgt y) acc) s) where
  suffix s := List.foldlRecOn (motive := (s <:+ ·)) ys _ (List.suffix_refl _)
    fun acc h _ _ => h.trans (pushNew_suffix _ _ acc)
  nodup s hs := List.foldlRecOn (motive := List.Nodup) ys _ hs fun _ h _ _ => pushNew_nodup _ _ h
  sound Q hQ s hs := by
    refine (List.foldlRecOn (motive := fun acc => s ⊆ acc ∧ ∀ x ∈ acc, Q x) ys _
      ⟨List.Subset.refl _, hs⟩ ?_).2
    rintro acc ⟨hsub, hacc⟩ y hy
    refine ⟨fun x hx => mem_pushNew.2 (Or.inl (hsub hx)), fun x hx => ?_⟩
    rcases mem_pushNew.1 hx with hx | ⟨hc, rfl⟩
    · exact hacc x hx
    · obtain ⟨a, ha, hR⟩ := hsound s acc y hsub hy hc
      exact hQ a _ (hacc a ha) hR
  complete s hfix a b ha hab := by
    -- all steps of a sweep that returns `s` were taken at `s` itself (`foldl_fix`)
    obtain ⟨y, hy, hc, rfl⟩ := hcomplete s a b ha hab
    have := foldl_fix _ (fun acc y => pushNew_suffix _ _ acc) ys s hfix y hy
    rw [← this]
    exact mem_pushNew.2 (Or.inr ⟨hc, rfl⟩)

end DM
