/-
Lemmas/HilbertInverse.lean — `hilbertPoint D b` inverts `hilbertIndex b` on the grid `[0,2^b)^D`, for every
`D` and `b`: each of the three steps of the transform (excess-work passes, Gray step, bit interleave) is
undone by its counterpart in `hilbertPoint`, and every intermediate value stays in the grid.  By counting,
`hilbertIndex b` is then onto `[0, 2^(D*b))` and `hilbertPoint` is its two-sided inverse.  The passes are
read bit by bit (`and_two_pow_ne_zero`, `exch_fst_testBit`, `exch_snd_testBit`); the same interleave lemma
gives the Morton round trip.
-/
import DelaunayModel.Lemmas.HilbertAux
import DelaunayModel.Lemmas.ListAux
namespace DM.HilbertAux
open DM DM.Hilbert

theorem xor_cancel (a b : Nat) : a ^^^ b ^^^ b = a := by
  rw [Nat.xor_assoc, Nat.xor_self, Nat.xor_zero]

theorem two_pow_sub_one_lt {e b : Nat} (he : e ≤ b) : 2 ^ e - 1 < 2 ^ b := by
  have := Nat.two_pow_pos e
  have := Nat.pow_le_pow_right (n := 2) (by omega) he
  omega

theorem testBit_of_lt {b x k : Nat} (h : x < 2 ^ b) (hk : b ≤ k) : x.testBit k = false :=
  Nat.testBit_lt_two_pow (Nat.lt_of_lt_of_le h (Nat.pow_le_pow_right (by omega) hk))

/-- the test used throughout the transform reads one bit -/
theorem and_two_pow_ne_zero (x k : Nat) : (x &&& 2 ^ k != 0) = x.testBit k := by
  refine Bool.eq_iff_iff.2 ⟨fun h => ?_, fun h => ?_⟩
  · -- a number that is not zero has a bit set, and `x &&& 2 ^ k` can only have bit `k`
    obtain ⟨i, hi⟩ := Nat.exists_testBit_of_ne_zero (bne_iff_ne.1 h)
    rw [Nat.testBit_and, Nat.testBit_two_pow, Bool.and_eq_true, decide_eq_true_eq] at hi
    exact hi.2 ▸ hi.1
  · refine bne_iff_ne.2 fun h0 => ?_
    have := congrArg (·.testBit k) h0
    simp [h] at this

theorem testBit_top (b k : Nat) (t : Bool) : (2 ^ b * t.toNat).testBit k = (decide (k = b) && t) := by
  rw [Nat.testBit_two_pow_mul, Nat.testBit_bool_toNat]
  by_cases h : k = b
  · simp [h]
  · by_cases h2 : b ≤ k
    · simp [h, show ¬ k - b = 0 by omega]
    · simp [h, h2]

theorem xor_top_eq_add {b y : Nat} (h : y < 2 ^ b) (t : Bool) : y ^^^ 2 ^ b * t.toNat = 2 ^ b * t.toNat + y := by
  apply Nat.eq_of_testBit_eq
  intro k
  rw [Nat.testBit_xor, testBit_top, Nat.testBit_two_pow_mul_add _ h, Nat.testBit_bool_toNat]
  by_cases hk : k < b
  · simp [hk, Nat.ne_of_lt hk]
  · simp [hk, testBit_of_lt h (Nat.le_of_not_lt hk), show k - b = 0 ↔ k = b by omega]

/-- the bits below `b`, all set or none: what a pass xors into a coordinate, the low part of a corner cell -/
def fill (b : Nat) (p : Bool) : Nat := if p then 2 ^ b - 1 else 0

theorem testBit_fill (b i : Nat) (p : Bool) : (fill b p).testBit i = (p && decide (i < b)) := by
  cases p <;> simp [fill]

theorem fill_lt (b : Nat) (p : Bool) : fill b p < 2 ^ b := by
  unfold fill
  split
  · exact two_pow_sub_one_lt (Nat.le_refl b)
  · exact Nat.two_pow_pos b

theorem fill_not (b : Nat) (p : Bool) : fill b (!p) = fill b p ^^^ fill b true := by
  cases p <;> simp [fill]

theorem fill_succ (b : Nat) (p : Bool) : fill (b + 1) p = fill b p ^^^ 2 ^ b * p.toNat := by
  cases p
  · simp [fill]
  · show 2 ^ (b + 1) - 1 = (2 ^ b - 1) ^^^ 2 ^ b * true.toNat
    rw [xor_top_eq_add (two_pow_sub_one_lt (Nat.le_refl b)), Bool.toNat_true, Nat.mul_one, Nat.pow_succ,
      Nat.mul_two, Nat.add_sub_assoc (Nat.two_pow_pos b)]

theorem fill_shiftRight (b : Nat) (p : Bool) : fill (b + 1) p >>> 1 = fill b p := by
  apply Nat.eq_of_testBit_eq
  intro k
  rw [Nat.testBit_shiftRight, testBit_fill, testBit_fill, Nat.add_comm 1 k]
  simp only [Nat.add_lt_add_iff_right]

/-! ### one pass and its inverse -/

/-- what a pass does to the first coordinate on its own -/
def head0 (mask t0 : Nat) : Nat := if t0 &&& mask != 0 then t0 ^^^ (mask - 1) else t0

/-- the step both passes apply to the running first coordinate `f` and a coordinate `c`: invert the low
bits of `f`, or exchange the low bits in which `f` and `c` differ -/
def exch (mask : Nat) (f c : Nat) : Nat × Nat :=
  if c &&& mask != 0 then (f ^^^ (mask - 1), c)
  else (f ^^^ ((f ^^^ c) &&& (mask - 1)), c ^^^ ((f ^^^ c) &&& (mask - 1)))

/-- the forward pass as a structural recursion: thread `f` through the coordinates from left to right -/
def thread (mask : Nat) : Nat → List Nat → Nat × List Nat
  | f, [] => (f, [])
  | f, c :: rest =>
    let r := thread mask (exch mask f c).1 rest
    (r.1, (exch mask f c).2 :: r.2)

theorem exch_fst_testBit (e f c k : Nat) :
    (exch (2 ^ e) f c).1.testBit k =
      if k < e then (if c.testBit e then !f.testBit k else c.testBit k) else f.testBit k := by
  unfold exch
  rw [and_two_pow_ne_zero]
  by_cases hk : k < e
  · cases c.testBit e <;> simp [hk]
  · cases c.testBit e <;> simp [hk]

theorem exch_snd_testBit (e f c k : Nat) :
    (exch (2 ^ e) f c).2.testBit k = if k < e ∧ c.testBit e = false then f.testBit k else c.testBit k := by
  unfold exch
  rw [and_two_pow_ne_zero]
  cases c.testBit e
  · by_cases hk : k < e
    · simp only [hk, Bool.false_eq_true, if_false, Nat.testBit_xor, Nat.testBit_and, Nat.testBit_two_pow_sub_one,
        decide_true, Bool.and_true, and_self, if_true]
      rw [Bool.xor_comm (f.testBit k), ← Bool.xor_assoc, Bool.xor_self, Bool.false_xor]
    · simp [hk]
  · simp

theorem head0_eq (e f : Nat) : head0 (2 ^ e) f = f ^^^ fill e (f.testBit e) := by
  unfold head0 fill
  rw [and_two_pow_ne_zero]
  cases f.testBit e <;> simp

theorem head0_head0 (k t0 : Nat) : head0 (2 ^ k) (head0 (2 ^ k) t0) = t0 := by
  -- the bits below `k` do not reach bit `k`: both times the same mask
  rw [head0_eq, head0_eq, Nat.testBit_xor, testBit_fill, decide_eq_false (Nat.lt_irrefl k), Bool.and_false,
    Bool.xor_false, xor_cancel]

/-- `exch` changes bits below `k` only and decides by bit `k` of `c`, so it undoes itself -/
theorem exch_exch (k f c : Nat) : exch (2 ^ k) (exch (2 ^ k) f c).1 (exch (2 ^ k) f c).2 = (f, c) := by
  have hc : (exch (2 ^ k) f c).2.testBit k = c.testBit k := by
    rw [exch_snd_testBit, if_neg fun h => Nat.lt_irrefl k h.1]
  refine Prod.ext (Nat.eq_of_testBit_eq fun i => ?_) (Nat.eq_of_testBit_eq fun i => ?_)
  · rw [exch_fst_testBit, hc, exch_fst_testBit, exch_snd_testBit]
    by_cases hi : i < k
    · cases c.testBit k <;> simp [hi]
    · simp [hi]
  · rw [exch_snd_testBit, hc, exch_fst_testBit, exch_snd_testBit]
    by_cases hi : i < k
    · cases c.testBit k <;> simp [hi]
    · simp [hi]

/-- the left fold of `axesPass`, for any way of writing its step -/
theorem foldl_exch {mask : Nat} {step : Nat × List Nat → Nat → Nat × List Nat}
    (hs : ∀ f out c, step (f, out) c = ((exch mask f c).1, (exch mask f c).2 :: out))
    (rest : List Nat) (f : Nat) (out : List Nat) :
    rest.foldl step (f, out) = ((thread mask f rest).1, (thread mask f rest).2.reverse ++ out) := by
  induction rest generalizing f out with
  | nil => rfl
  | cons c rest ih => rw [List.foldl_cons, hs, ih]; simp [thread]

/-- the inverse pass as a structural recursion: the running first coordinate meets the coordinates from the
last to the first -/
def rthread (mask f : Nat) : List Nat → Nat × List Nat
  | [] => (f, [])
  | c :: rest =>
    let r := rthread mask f rest
    ((exch mask r.1 c).1, (exch mask r.1 c).2 :: r.2)

theorem rthread_thread (k f : Nat) (rest : List Nat) :
    rthread (2 ^ k) (thread (2 ^ k) f rest).1 (thread (2 ^ k) f rest).2 = (f, rest) := by
  induction rest generalizing f with
  | nil => rfl
  | cons c rest ih => rw [thread, rthread, ih, exch_exch]

theorem axesPass_cons (mask t0 : Nat) (rest : List Nat) :
    axesPass mask (t0 :: rest) =
      (thread mask (head0 mask t0) rest).1 :: (thread mask (head0 mask t0) rest).2 := by
  unfold axesPass
  simp only []
  rw [foldl_exch (mask := mask) (by intro f out c; unfold exch; split <;> rfl)]
  simp [head0]

theorem invPass_cons (mask t0 : Nat) (rest : List Nat) :
    invPass mask (t0 :: rest) = head0 mask (rthread mask t0 rest).1 :: (rthread mask t0 rest).2 := by
  have key : ∀ {step : Nat → Nat × List Nat → Nat × List Nat},
      (∀ f out c, step c (f, out) = ((exch mask f c).1, (exch mask f c).2 :: out)) →
      rest.foldr step (t0, []) = rthread mask t0 rest := by
    intro step hs
    induction rest with
    | nil => rfl
    | cons c rest ih => rw [List.foldr_cons, ih]; exact hs _ _ _
  unfold invPass
  simp only []
  rw [key (by intro f out c; unfold exch; split <;> rfl)]
  rfl

theorem invPass_axesPass (k : Nat) (t : List Nat) : invPass (2 ^ k) (axesPass (2 ^ k) t) = t := by
  cases t with
  | nil => rfl
  | cons t0 rest => rw [axesPass_cons, invPass_cons, rthread_thread, head0_head0]

theorem foldl_range_down_succ {α : Type} (f : Nat → α → α) (n : Nat) (t : α) :
    (List.range (n + 1)).foldl (fun acc j => f (n + 1 - j) acc) t =
      (List.range n).foldl (fun acc j => f (n - j) acc) (f (n + 1) t) := by
  rw [List.range_succ_eq_map, List.foldl_cons, List.foldl_map]
  simp only [Nat.succ_eq_add_one, Nat.add_sub_add_right, Nat.sub_zero]

theorem foldl_range_undo {α : Type} (f g : Nat → α → α) (h : ∀ e x, g e (f e x) = x) (n : Nat) (t : α) :
    (List.range n).foldl (fun acc j => g (j + 1) acc)
      ((List.range n).foldl (fun acc j => f (n - j) acc) t) = t := by
  induction n generalizing t with
  | zero => rfl
  | succ n ih =>
    rw [foldl_range_down_succ, List.range_succ, List.foldl_append, ih]
    exact h _ _

theorem transposeToAxes_axesToTranspose (bits : Nat) (t : List Nat) :
    transposeToAxes bits (axesToTranspose bits t) = t :=
  foldl_range_undo (fun e => axesPass (2 ^ e)) (fun e => invPass (2 ^ e)) invPass_axesPass (bits - 1) t

/-! ### bit interleaving -/

theorem push_shiftRight (i x : Nat) : ((i <<< 1) ||| (x &&& 1)) >>> 1 = i := by
  have : (x &&& 1) >>> 1 = 0 := by
    rw [Nat.shiftRight_eq_div_pow]; exact Nat.div_eq_of_lt (Nat.lt_succ_of_le Nat.and_le_right)
  rw [Nat.shiftRight_or_distrib, Nat.shiftLeft_shiftRight, this, Nat.or_zero]

/-- the inner fold of `interleave`: push bit `pos` of every coordinate onto `i`, coordinate 0 first -/
def pushBits (pos : Nat) (t : List Nat) (i : Nat) : Nat :=
  t.foldl (fun i c => (i <<< 1) ||| ((c >>> pos) &&& 1)) i

theorem pushBits_cons (pos c : Nat) (t : List Nat) (i : Nat) :
    pushBits pos (c :: t) i = pushBits pos t ((i <<< 1) ||| ((c >>> pos) &&& 1)) := rfl

theorem pushBits_shiftRight (pos : Nat) (t : List Nat) (i : Nat) : pushBits pos t i >>> t.length = i := by
  induction t generalizing i with
  | nil => rfl
  | cons c t ih => rw [pushBits_cons, List.length_cons, Nat.shiftRight_add, ih, push_shiftRight]

theorem pushBits_testBit (pos : Nat) (t : List Nat) (i j : Nat) (hj : j < t.length) :
    (pushBits pos t i).testBit (t.length - 1 - j) = t[j].testBit pos := by
  induction t generalizing i j with
  | nil => simp at hj
  | cons c t ih =>
    rw [pushBits_cons]
    cases j with
    | zero =>
      have := congrArg (·.testBit 0) (pushBits_shiftRight pos t ((i <<< 1) ||| ((c >>> pos) &&& 1)))
      simp only [Nat.testBit_shiftRight, Nat.add_zero] at this
      simp only [List.length_cons, Nat.add_sub_cancel, Nat.sub_zero, List.getElem_cons_zero, this]
      simp
    | succ j =>
      rw [List.getElem_cons_succ, ← ih ((i <<< 1) ||| ((c >>> pos) &&& 1)) j (by simpa using hj), List.length_cons]
      congr 1; omega

/-- peel the least significant bit plane: the last round of `interleave (b+1)` pushes bit 0 of every
coordinate, the rounds before are `interleave b` of the coordinates shifted right by one -/
theorem interleave_succ (b : Nat) (t : List Nat) :
    interleave (b + 1) t = pushBits 0 t (interleave b (t.map (· >>> 1))) := by
  unfold interleave pushBits
  rw [List.range_succ, List.foldl_append]
  simp only [List.foldl_cons, List.foldl_nil, Nat.add_sub_cancel, Nat.sub_self]
  congr 1
  apply foldl_ext_mem
  intro idx j hj
  have : b - j = 1 + (b - 1 - j) := by have := List.mem_range.1 hj; omega
  simp only [List.foldl_map, this, Nat.shiftRight_add]

theorem interleave_testBit (b : Nat) (t : List Nat) (p j : Nat) (hp : p < b) (hj : j < t.length) :
    (interleave b t).testBit (p * t.length + (t.length - 1 - j)) = t[j].testBit p := by
  induction b generalizing t p with
  | zero => omega
  | succ b ih =>
    rw [interleave_succ]
    cases p with
    | zero => rw [Nat.zero_mul, Nat.zero_add, pushBits_testBit 0 t _ j hj]
    | succ p =>
      have h1 := pushBits_shiftRight 0 t (interleave b (t.map (· >>> 1)))
      have h2 := ih (t.map (· >>> 1)) p (by omega) (by simpa using hj)
      rw [← h1, Nat.testBit_shiftRight, List.getElem_map, Nat.testBit_shiftRight] at h2
      simp only [List.length_map] at h2
      rw [Nat.succ_mul, Nat.add_right_comm, Nat.add_comm _ t.length, h2, Nat.add_comm]

theorem bit_shiftLeft_testBit (x q p : Nat) :
    ((x &&& 1) <<< q).testBit p = (decide (p = q) && x.testBit 0) := by
  rw [← testBit_top, Nat.toNat_testBit, Nat.shiftLeft_eq, Nat.and_one_is_mod, Nat.pow_zero, Nat.div_one,
    Nat.mul_comm]

/-- the fold inside `deinterleave` -/
theorem collectBits_testBit (f : Nat → Nat) (b p : Nat) :
    ((List.range b).foldl (fun acc q => acc ||| (((f q) &&& 1) <<< q)) 0).testBit p =
      (decide (p < b) && (f p).testBit 0) := by
  induction b with
  | zero => simp
  | succ b ih =>
    rw [List.range_succ, List.foldl_append, List.foldl_cons, List.foldl_nil, Nat.testBit_or, ih,
      bit_shiftLeft_testBit]
    by_cases h : p = b
    · subst h; simp
    · have : p < b + 1 ↔ p < b := by omega
      simp [h, this]

theorem length_deinterleave (D b i : Nat) : (deinterleave D b i).length = D := by
  simp [deinterleave]

theorem getElem_deinterleave_testBit (D b i j p : Nat) (hj : j < (deinterleave D b i).length) :
    (deinterleave D b i)[j].testBit p = (decide (p < b) && i.testBit (p * D + (D - 1 - j))) := by
  simp only [deinterleave, List.getElem_map, List.getElem_range]
  rw [collectBits_testBit (fun q => i >>> (q * D + (D - 1 - j))), Nat.testBit_shiftRight, Nat.add_zero]

/-- de-interleaving undoes interleaving, up to the bits above `b` that `interleave b` never reads -/
theorem deinterleave_interleave (b : Nat) (t : List Nat) :
    deinterleave t.length b (interleave b t) = t.map (· % 2 ^ b) := by
  refine List.ext_getElem (by simp [length_deinterleave]) fun j h1 h2 => Nat.eq_of_testBit_eq fun p => ?_
  have hj : j < t.length := by simpa using h2
  rw [getElem_deinterleave_testBit, List.getElem_map, Nat.testBit_mod_two_pow]
  by_cases hp : p < b
  · rw [interleave_testBit b t p j hp hj]
  · simp [hp]

/-! ### every step keeps the number of coordinates; the index range, for all inputs -/

/-- shifting out the bit planes one by one (`interleave_succ`) leaves nothing; no bound on the coordinates -/
theorem interleave_lt (bits : Nat) (t : List Nat) : interleave bits t < 2 ^ (bits * t.length) := by
  have h : interleave bits t >>> (bits * t.length) = 0 := by
    induction bits generalizing t with
    | zero => simp [interleave]
    | succ b ih =>
      rw [Nat.succ_mul, Nat.add_comm (b * t.length), Nat.shiftRight_add, interleave_succ, pushBits_shiftRight]
      simpa using ih (t.map (· >>> 1))
  rw [Nat.shiftRight_eq_div_pow] at h
  exact Nat.lt_of_div_eq_zero (Nat.two_pow_pos _) h

theorem thread_length (mask f : Nat) (rest : List Nat) : (thread mask f rest).2.length = rest.length := by
  induction rest generalizing f with
  | nil => rfl
  | cons c rest ih => simp [thread, ih]

theorem length_axesPass (mask : Nat) (t : List Nat) : (axesPass mask t).length = t.length := by
  cases t with
  | nil => rfl
  | cons t0 rest => rw [axesPass_cons, List.length_cons, thread_length, List.length_cons]

theorem length_axesToTranspose (bits : Nat) (t : List Nat) : (axesToTranspose bits t).length = t.length :=
  List.foldlRecOn (motive := (·.length = t.length)) _ _ rfl fun acc h _ _ => (length_axesPass _ acc).trans h

theorem length_prefixXor (prev : Nat) (t : List Nat) : (prefixXor prev t).length = t.length := by
  induction t generalizing prev with
  | nil => rfl
  | cons c t ih => simp [prefixXor, ih]

theorem length_grayEncode (t : List Nat) : (grayEncode t).length = t.length := by
  cases t with
  | nil => rfl
  | cons c t => simp [grayEncode, length_prefixXor]

/-- steps 2a and 2b of `hilbertIndex` as one function of the transposed coordinates -/
def grayStep (bits : Nat) (t : List Nat) : List Nat :=
  (grayEncode t).map (· ^^^ grayMask bits ((grayEncode t).getLastD 0))

theorem hilbertIndex_eq (bits : Nat) (c : List Nat) :
    hilbertIndex bits c = interleave bits (grayStep bits (axesToTranspose bits c)) := rfl

theorem length_grayStep (bits : Nat) (t : List Nat) : (grayStep bits t).length = t.length := by
  rw [grayStep, List.length_map, length_grayEncode]

theorem hilbertIndex_lt (bits : Nat) (c : List Nat) : hilbertIndex bits c < 2 ^ (bits * c.length) := by
  have := interleave_lt bits (grayStep bits (axesToTranspose bits c))
  rwa [length_grayStep, length_axesToTranspose] at this

theorem interleave_lt_of_length {D b : Nat} {t : List Nat} (hl : t.length = D) :
    interleave b t < 2 ^ (D * b) := by
  have := interleave_lt b t
  rwa [hl, Nat.mul_comm] at this

theorem hilbertIndex_lt_of_length {D b : Nat} {c : List Nat} (hl : c.length = D) :
    hilbertIndex b c < 2 ^ (D * b) := by
  have := hilbertIndex_lt b c
  rwa [hl, Nat.mul_comm] at this

/-! ### every step stays in the grid -/

theorem prefixXor_lt {b prev : Nat} {rest : List Nat} (hp : prev < 2 ^ b) (hr : ∀ x ∈ rest, x < 2 ^ b) :
    ∀ x ∈ prefixXor prev rest, x < 2 ^ b := by
  induction rest generalizing prev with
  | nil => intro x hx; cases hx
  | cons c rest ih =>
    have hc := Nat.xor_lt_two_pow (hr c (List.mem_cons_self ..)) hp
    intro x hx
    rcases List.mem_cons.1 hx with rfl | hx
    · exact hc
    · exact ih hc (fun y hy => hr y (List.mem_cons_of_mem _ hy)) x hx

theorem grayEncode_lt {b : Nat} {t : List Nat} (ht : ∀ x ∈ t, x < 2 ^ b) : ∀ x ∈ grayEncode t, x < 2 ^ b := by
  cases t with
  | nil => intro x hx; cases hx
  | cons t0 rest =>
    have h0 := ht t0 (List.mem_cons_self ..)
    intro x hx
    rcases List.mem_cons.1 hx with rfl | hx
    · exact h0
    · exact prefixXor_lt h0 (fun y hy => ht y (List.mem_cons_of_mem _ hy)) x hx

theorem thread_lt {b e : Nat} (he : e ≤ b) {f : Nat} {rest : List Nat} (hf : f < 2 ^ b)
    (hr : ∀ x ∈ rest, x < 2 ^ b) :
    (thread (2 ^ e) f rest).1 < 2 ^ b ∧ ∀ x ∈ (thread (2 ^ e) f rest).2, x < 2 ^ b := by
  have hm := two_pow_sub_one_lt he
  induction rest generalizing f with
  | nil => exact ⟨hf, fun x hx => by cases hx⟩
  | cons c rest ih =>
    have hc := hr c (List.mem_cons_self ..)
    have h1 : (exch (2 ^ e) f c).1 < 2 ^ b ∧ (exch (2 ^ e) f c).2 < 2 ^ b := by
      unfold exch
      split
      · exact ⟨Nat.xor_lt_two_pow hf hm, hc⟩
      · exact ⟨Nat.xor_lt_two_pow hf (Nat.and_lt_two_pow _ hm), Nat.xor_lt_two_pow hc (Nat.and_lt_two_pow _ hm)⟩
    obtain ⟨i1, i3⟩ := ih h1.1 (fun y hy => hr y (List.mem_cons_of_mem _ hy))
    exact ⟨i1, List.forall_mem_cons.2 ⟨h1.2, i3⟩⟩

theorem axesPass_inGrid {D b e : Nat} (he : e ≤ b) {t : List Nat} (ht : InGrid D b t) :
    InGrid D b (axesPass (2 ^ e) t) := by
  refine ⟨(length_axesPass _ t).trans ht.1, ?_⟩
  cases t with
  | nil => exact ht.2
  | cons t0 rest =>
    have h0 : head0 (2 ^ e) t0 < 2 ^ b := by
      have := ht.2 t0 (List.mem_cons_self ..)
      unfold head0; split
      · exact Nat.xor_lt_two_pow this (two_pow_sub_one_lt he)
      · exact this
    obtain ⟨i1, i3⟩ := thread_lt he h0 (fun y hy => ht.2 y (List.mem_cons_of_mem _ hy))
    rw [axesPass_cons]
    exact List.forall_mem_cons.2 ⟨i1, i3⟩

theorem axesToTranspose_inGrid {D b : Nat} {t : List Nat} (ht : InGrid D b t) :
    InGrid D b (axesToTranspose b t) :=
  List.foldlRecOn (motive := InGrid D b) _ _ ht fun _ h j _ => axesPass_inGrid (e := b - 1 - j) (by omega) h

/-! ### the Gray step -/

/-- `grayMask` with the number of rounds as a parameter (`grayMask bits = grayRounds (bits - 1)`) and
each round written as one xor -/
def grayRounds (last : Nat) : Nat → Nat
  | 0 => 0
  | n + 1 => fill (n + 1) (last.testBit (n + 1)) ^^^ grayRounds last n

theorem grayMask_eq (bits last : Nat) : grayMask bits last = grayRounds last (bits - 1) := by
  unfold grayMask
  generalize bits - 1 = n
  have key : ∀ g0, (List.range n).foldl (fun g j =>
      let m := 2 ^ (n - j)
      if last &&& m != 0 then g ^^^ (m - 1) else g) g0 = g0 ^^^ grayRounds last n := by
    induction n with
    | zero => intro g0; simp [grayRounds]
    | succ n ih =>
      intro g0
      refine (foldl_range_down_succ
        (fun e g => if last &&& 2 ^ e != 0 then g ^^^ (2 ^ e - 1) else g) n g0).trans ?_
      rw [ih, grayRounds, ← Nat.xor_assoc, fill, ← and_two_pow_ne_zero]
      split <;> simp
  simpa using key 0

theorem grayRounds_lt (last n : Nat) : grayRounds last n < 2 ^ n := by
  induction n with
  | zero => exact Nat.one_pos
  | succ n ih =>
    rw [grayRounds]
    exact Nat.xor_lt_two_pow (fill_lt _ _) (Nat.lt_of_lt_of_le ih (Nat.pow_le_pow_right (by omega) (by omega)))

/-- one more round: the new top bit of `last` and the round's mask together are `fill (n + 2)`, whose shift
is the round's mask -/
theorem grayRounds_fixed (last n : Nat) :
    ((last % 2 ^ (n + 1)) ^^^ grayRounds last n) >>> 1 = grayRounds last n := by
  induction n with
  | zero =>
    rw [grayRounds, Nat.xor_zero, Nat.shiftRight_eq_div_pow]
    exact Nat.div_eq_of_lt (Nat.mod_lt _ (by decide))
  | succ n ih =>
    have hm : last % 2 ^ (n + 1 + 1) = last % 2 ^ (n + 1) ^^^ 2 ^ (n + 1) * (last.testBit (n + 1)).toNat := by
      rw [Nat.mod_pow_succ, ← Nat.toNat_testBit, Nat.add_comm, xor_top_eq_add (Nat.mod_lt _ (Nat.two_pow_pos _))]
    have hr : ∀ a t f g : Nat, (a ^^^ t) ^^^ (f ^^^ g) = (a ^^^ g) ^^^ (f ^^^ t) := fun a t f g => by ac_rfl
    rw [hm, grayRounds, hr, ← fill_succ, Nat.shiftRight_xor_distrib, ih, fill_shiftRight, Nat.xor_comm]

/-- the mask `g` computed from the last Gray-encoded coordinate `L` is what the decoder recomputes from
the masked coordinate: `g = (L ^^^ g) >>> 1` -/
theorem grayMask_fixed (bits last : Nat) (h : last < 2 ^ bits) :
    (last ^^^ grayMask bits last) >>> 1 = grayMask bits last := by
  have := grayRounds_fixed last (bits - 1)
  rwa [Nat.mod_eq_of_lt (Nat.lt_of_lt_of_le h (Nat.pow_le_pow_right (by omega) (by omega))), ← grayMask_eq] at this

/-- neighbouring differences of the prefix xors give the coordinates back, whatever mask `g` was applied -/
theorem zipWith_prefixXor (g prev : Nat) (rest : List Nat) :
    List.zipWith (· ^^^ ·) ((prefixXor prev rest).map (· ^^^ g)) ((prev :: prefixXor prev rest).map (· ^^^ g)) =
      rest := by
  induction rest generalizing prev with
  | nil => rfl
  | cons c rest ih =>
    rw [prefixXor, List.map_cons, List.map_cons, List.zipWith_cons_cons, ih,
      Nat.xor_comm prev, ← Nat.xor_assoc, xor_cancel, xor_cancel]

theorem grayDecode_grayStep (bits : Nat) (t : List Nat) (ht : ∀ x ∈ t, x < 2 ^ bits) :
    grayDecode (grayStep bits t) = t := by
  unfold grayStep
  cases t with
  | nil => rfl
  | cons t0 rest =>
    have hL : (grayEncode (t0 :: rest)).getLastD 0 < 2 ^ bits := by
      rcases List.mem_cons.1 (List.getLastD_mem_cons (l := grayEncode (t0 :: rest)) (a := 0)) with h | h
      · rw [h]; exact Nat.two_pow_pos _
      · exact grayEncode_lt ht _ h
    have hg := grayMask_fixed bits _ hL
    rw [grayEncode] at hg ⊢
    generalize grayMask bits ((t0 :: prefixXor t0 rest).getLastD 0) = g at hg ⊢
    rw [List.getLastD_cons] at hg
    rw [grayDecode, List.map_cons, List.getLastD_cons, List.getLastD_map (f := (· ^^^ g)), hg,
      List.zipWith_cons_cons, xor_cancel]
    exact congrArg _ (zipWith_prefixXor g t0 rest)

theorem grayStep_inGrid {D b : Nat} {t : List Nat} (ht : InGrid D b t) : InGrid D b (grayStep b t) := by
  refine ⟨(length_grayStep b t).trans ht.1, fun x hx => ?_⟩
  obtain ⟨y, hy, rfl⟩ := List.mem_map.1 hx
  refine Nat.xor_lt_two_pow (grayEncode_lt ht.2 y hy) ?_
  rw [grayMask_eq]
  exact Nat.lt_of_lt_of_le (grayRounds_lt _ _) (Nat.pow_le_pow_right (by omega) (by omega))

/-! ### the inverse on the grid -/

theorem deinterleave_interleave_inGrid {D b : Nat} {t : List Nat} (ht : InGrid D b t) :
    deinterleave D b (interleave b t) = t := by
  have := deinterleave_interleave b t
  rw [ht.1] at this
  rw [this]
  exact (List.map_congr_left (fun x hx => Nat.mod_eq_of_lt (ht.2 x hx))).trans (List.map_id' t)

/-- the forward transform stays in the grid, so each inverse step undoes its forward step -/
theorem hilbertPoint_hilbertIndex {D b : Nat} {c : List Nat} (hc : InGrid D b c) :
    hilbertPoint D b (hilbertIndex b c) = c := by
  have h1 := axesToTranspose_inGrid hc
  rw [hilbertPoint, hilbertIndex_eq, deinterleave_interleave_inGrid (grayStep_inGrid h1),
    grayDecode_grayStep b _ h1.2, transposeToAxes_axesToTranspose]

theorem hilbertIndex_injOn {D b : Nat} {c₁ c₂ : List Nat} (h₁ : InGrid D b c₁) (h₂ : InGrid D b c₂)
    (e : hilbertIndex b c₁ = hilbertIndex b c₂) : c₁ = c₂ := by
  rw [← hilbertPoint_hilbertIndex h₁, ← hilbertPoint_hilbertIndex h₂, e]

/-! ### counting: a left inverse on the grid is a right inverse on the index range -/

theorem mem_grid {m D : Nat} {c : List Nat} : c ∈ grid m D ↔ c.length = D ∧ ∀ x ∈ c, x < m := by
  induction D generalizing c with
  | zero =>
    simp only [grid, List.mem_singleton, List.length_eq_zero_iff]
    exact ⟨fun h => ⟨h, by simp [h]⟩, fun h => h.1⟩
  | succ D ih =>
    simp only [grid, List.mem_flatMap, List.mem_range, List.mem_map]
    constructor
    · rintro ⟨x, hx, t, ht, rfl⟩
      obtain ⟨h1, h2⟩ := ih.1 ht
      refine ⟨by simp [h1], ?_⟩
      intro y hy
      rcases List.mem_cons.1 hy with rfl | hy'
      · exact hx
      · exact h2 y hy'
    · rintro ⟨hl, hm⟩
      cases c with
      | nil => simp at hl
      | cons x t =>
        exact ⟨x, hm x (List.mem_cons_self ..), t,
          ih.2 ⟨by simpa using hl, fun y hy => hm y (List.mem_cons_of_mem _ hy)⟩, rfl⟩

theorem length_grid (m D : Nat) : (grid m D).length = m ^ D := by
  induction D with
  | zero => simp [grid]
  | succ D ih =>
    rw [grid, length_flatMap_const _ _ (m ^ D) (by intro x _; rw [List.length_map, ih]),
      List.length_range, Nat.pow_succ, Nat.mul_comm]

theorem nodup_grid (m D : Nat) : (grid m D).Nodup := by
  induction D with
  | zero => simp [grid]
  | succ D ih =>
    rw [grid, List.Nodup, List.pairwise_flatMap]
    refine ⟨fun x _ => ?_, ?_⟩
    · rw [List.pairwise_map]
      exact ih.imp (fun h e => h (List.cons.inj e).2)
    · refine List.nodup_range.imp ?_
      intro x y hxy a ha b hb e
      obtain ⟨_, _, rfl⟩ := List.mem_map.1 ha
      obtain ⟨_, _, rfl⟩ := List.mem_map.1 hb
      exact hxy (List.cons.inj e).1

/-- every index below `2^(D*b)` is the Hilbert index of a grid cell: the `2^(D*b)` cells have distinct
indices (`hilbertPoint` recovers the cell) below `2^(D*b)` -/
theorem hilbertIndex_surj (D b : Nat) {i : Nat} (hi : i < 2 ^ (D * b)) :
    ∃ c, InGrid D b c ∧ hilbertIndex b c = i := by
  have hnd : ((grid (2 ^ b) D).map (hilbertIndex b)).Nodup :=
    nodup_map_on (fun _ hc _ hd e => hilbertIndex_injOn (mem_grid.1 hc) (mem_grid.1 hd) e)
      (nodup_grid _ _)
  have hsub : (grid (2 ^ b) D).map (hilbertIndex b) ⊆ List.range (2 ^ (D * b)) := by
    intro x hx
    obtain ⟨c, hc, rfl⟩ := List.mem_map.1 hx
    exact List.mem_range.2 (hilbertIndex_lt_of_length (mem_grid.1 hc).1)
  have hlen : (List.range (2 ^ (D * b))).length ≤ ((grid (2 ^ b) D).map (hilbertIndex b)).length := by
    rw [List.length_range, List.length_map, length_grid, Nat.mul_comm, Nat.pow_mul]
    exact Nat.le_refl _
  have hperm := perm_of_nodup_subset_length_le hnd hsub hlen
  obtain ⟨c, hc, rfl⟩ := List.mem_map.1 (hperm.mem_iff.2 (List.mem_range.2 hi))
  exact ⟨c, mem_grid.1 hc, rfl⟩

theorem hilbertIndex_hilbertPoint (D b : Nat) {i : Nat} (hi : i < 2 ^ (D * b)) :
    hilbertIndex b (hilbertPoint D b i) = i ∧ InGrid D b (hilbertPoint D b i) := by
  obtain ⟨c, hc, rfl⟩ := hilbertIndex_surj D b hi
  rw [hilbertPoint_hilbertIndex hc]
  exact ⟨rfl, hc⟩

end DM.HilbertAux
