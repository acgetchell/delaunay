/-
Lemmas/DetermAux.lean — helper lemmas for Props/C14 (listing-order independence).

 * normalised dyadics (`DyNorm`: mantissa odd, or the canonical zero `⟨0, 0⟩`) are compared
   faithfully by `cmpQ ∘ Q.ofDy`: comparison-equality is equality (`ofDy_cmp_eq`);
   `Dy.norm` with enough fuel produces them (`norm_dyNorm`);
 * the folds `qMin` / `qMax` pick THE least / greatest element, so they are permutation invariant
   on lists where comparison-equality is equality (`qMin_perm`, `qMax_perm`);
 * `List.lookup` under unique keys is permutation invariant (`lookup_perm`).

Core only.
-/
import DelaunayModel.Lemmas.OrderAux
import DelaunayModel.Lemmas.ListAux
import DelaunayModel.Model.Certify
namespace DM.DetermAux

open DM DM.Order DM.OrderAux

/-! ### normalised dyadics -/

/-- normal form of a dyadic: the canonical zero, or an odd mantissa -/
def DyNorm (d : Dy) : Prop := (d.m = 0 ∧ d.e = 0) ∨ d.m % 2 = 1

/-- all coordinates of a point are in normal form -/
def PtNorm (p : DPt) : Prop := ∀ d ∈ p, DyNorm d

instance (d : Dy) : Decidable (DyNorm d) := by unfold DyNorm; infer_instance
instance (p : DPt) : Decidable (PtNorm p) := by unfold PtNorm; infer_instance

theorem dyNorm_zero : DyNorm Dy.zero := Or.inl ⟨rfl, rfl⟩

/-- odd · 2^j = odd · 2^k forces j = k and equal odd parts: a factor two on one side only makes an odd
number even; a factor two on both sides cancels -/
theorem odd_pow_eq {x y : Int} (hx : x % 2 = 1) (hy : y % 2 = 1) (j k : Nat)
    (h : x * (2 : Int) ^ j = y * (2 : Int) ^ k) : j = k ∧ x = y := by
  induction j generalizing k with
  | zero =>
    cases k with
    | zero => exact ⟨rfl, by rwa [Int.pow_zero, Int.mul_one, Int.mul_one] at h⟩
    | succ k =>
      rw [Int.pow_succ, ← Int.mul_assoc, Int.pow_zero] at h
      omega
  | succ j ih =>
    rw [Int.pow_succ, ← Int.mul_assoc] at h
    cases k with
    | zero =>
      rw [Int.pow_zero] at h
      omega
    | succ k =>
      rw [Int.pow_succ, ← Int.mul_assoc] at h
      obtain ⟨rfl, rfl⟩ := ih k (Int.eq_of_mul_eq_mul_right (by decide) h)
      exact ⟨rfl, rfl⟩

/-- both branches of `Q.ofDy` in one formula -/
theorem ofDy_eq (d : Dy) : Q.ofDy d = ⟨d.m * (2 : Int) ^ d.e.toNat, 2 ^ (-d.e).toNat⟩ := by
  unfold Q.ofDy pow2
  split
  · rename_i h
    have : (-d.e).toNat = 0 := by omega
    rw [this]
  · rename_i h
    have : d.e.toNat = 0 := by omega
    rw [this, Int.pow_zero, Int.mul_one]

theorem cmpQ_eq_iff (a b : Q) : cmpQ a b = .eq ↔ a.num * b.den = b.num * a.den := by
  simp only [cmpQ, Q.lt, decide_eq_true_eq]
  split
  · simp only [reduceCtorEq, false_iff]
    omega
  · split
    · simp only [reduceCtorEq, false_iff]
      omega
    · simp only [true_iff]
      omega

theorem dyNorm_eq_zero {d : Dy} (hd : DyNorm d) (h0 : d.m = 0) : d = ⟨0, 0⟩ := by
  obtain ⟨m, e⟩ := d
  rcases hd with ⟨_, he⟩ | ho
  · simp only at h0 he
    rw [h0, he]
  · simp only at h0 ho
    omega

theorem eq_zero_of_mul_two_pow_eq {x y : Int} {p q : Nat} (h : x * (2 : Int) ^ p = y * (2 : Int) ^ q)
    (hx : x = 0) : y = 0 := by
  rw [hx, Int.zero_mul] at h
  exact (Int.mul_eq_zero.1 h.symm).resolve_right (Int.pow_ne_zero (by decide))

/-- on normalised dyadics the rational comparison is faithful -/
theorem ofDy_cmp_eq {a b : Dy} (ha : DyNorm a) (hb : DyNorm b)
    (h : cmpQ (Q.ofDy a) (Q.ofDy b) = .eq) : a = b := by
  rw [cmpQ_eq_iff, ofDy_eq, ofDy_eq] at h
  simp only [Int.natCast_pow, Int.cast_ofNat_Int] at h
  -- h : a.m * 2^a.e⁺ * 2^b.e⁻ = b.m * 2^b.e⁺ * 2^a.e⁻
  rw [Int.mul_assoc, Int.mul_assoc, ← Int.pow_add, ← Int.pow_add] at h
  by_cases ha0 : a.m = 0
  · rw [dyNorm_eq_zero ha ha0, dyNorm_eq_zero hb (eq_zero_of_mul_two_pow_eq h ha0)]
  · have hb0 : b.m ≠ 0 := fun e => ha0 (eq_zero_of_mul_two_pow_eq h.symm e)
    -- both mantissas are odd: equal odd parts and equal exponents of two
    obtain ⟨e1, e2⟩ := odd_pow_eq (ha.resolve_left (fun e => ha0 e.1))
      (hb.resolve_left (fun e => hb0 e.1)) _ _ h
    obtain ⟨am, ae⟩ := a
    obtain ⟨bm, be⟩ := b
    simp only at e1 e2
    have : ae = be := by omega
    rw [e2, this]

theorem cmpNat_eq_eq {a b : Nat} (h : cmpNat a b = .eq) : a = b :=
  Nat.compare_eq_eq.1 (cmpNat_eq_compare a b ▸ h)

/-! ### `Dy.norm` produces normal forms -/

/-- halving an even non-zero mantissa until it is odd: fuel exceeding its bit length suffices -/
theorem norm_odd (fuel : Nat) (d : Dy) (h0 : d.m ≠ 0) (hlt : d.m.natAbs < 2 ^ fuel) :
    (Dy.norm d fuel).m % 2 = 1 := by
  induction fuel generalizing d with
  | zero => omega
  | succ f ih =>
    rw [Dy.norm, if_neg (by simpa using h0)]
    split
    · rename_i hev
      rw [beq_iff_eq] at hev
      rw [Nat.pow_succ] at hlt
      exact ih ⟨d.m / 2, d.e + 1⟩ (by simp only; omega) (by simp only; omega)
    · rename_i hod
      rw [beq_iff_eq] at hod
      omega

theorem norm_dyNorm (d : Dy) (fuel : Nat) (hf : 0 < fuel) (hlt : d.m.natAbs < 2 ^ fuel) :
    DyNorm (Dy.norm d fuel) := by
  by_cases h0 : d.m = 0
  · obtain ⟨f, rfl⟩ := Nat.exists_eq_succ_of_ne_zero (Nat.ne_of_gt hf)
    rw [Dy.norm, if_pos (by simpa using h0)]
    exact dyNorm_zero
  · exact Or.inr (norm_odd fuel d h0 hlt)

/-! ### `qMin` / `qMax` are permutation invariant -/

/-- the selection fold shared by `qMin` (`r = Q.lt`) and `qMax` (`r x a = Q.lt a x`): the choice `a`
is kept until an element beats it (`r x a`) -/
def sel (r : Q → Q → Bool) (l : List Q) (a : Q) : Q := l.foldl (fun a x => if r x a then x else a) a

section Sel
variable {r : Q → Q → Bool} {P : Q → Prop} (hasym : ∀ a b, r a b = true → r b a = false)
  (htr : ∀ a b c, P b → r a b = false → r b c = false → r a c = false)
include hasym htr

/-- `sel r l a` is a member of `a :: l` that no member beats (`P`: what transitivity through a
member needs, for `Q.lt` a positive denominator) -/
theorem sel_least (l : List Q) (a : Q) (hP : ∀ x ∈ a :: l, P x) :
    sel r l a ∈ a :: l ∧ ∀ x ∈ a :: l, r x (sel r l a) = false := by
  have hirr : ∀ a, r a a = false := fun a =>
    Bool.eq_false_iff.2 fun h => Bool.false_ne_true ((hasym a a h).symm.trans h)
  induction l generalizing a with
  | nil => exact ⟨List.mem_singleton_self a, fun x hx => List.mem_singleton.1 hx ▸ hirr a⟩
  | cons x xs ih =>
    -- one step: the fold goes on from `b`, the better of `a` and `x`, which neither beats
    obtain ⟨b, hb, hab, hxb, e⟩ : ∃ b, (b = a ∨ b = x) ∧ r a b = false ∧ r x b = false ∧
        sel r (x :: xs) a = sel r xs b := by
      cases hxa : r x a
      · exact ⟨a, .inl rfl, hirr a, hxa, by rw [sel, List.foldl_cons, hxa]; rfl⟩
      · exact ⟨x, .inr rfl, hasym x a hxa, hirr x, by rw [sel, List.foldl_cons, hxa]; rfl⟩
    simp only [List.mem_cons, forall_eq_or_imp] at hP ih ⊢
    have hPb : P b := hb.elim (· ▸ hP.1) (· ▸ hP.2.1)
    obtain ⟨hm, hbs, hle⟩ := ih b ⟨hPb, hP.2.2⟩
    rw [e]
    refine ⟨?_, htr _ b _ hPb hab hbs, htr _ b _ hPb hxb hbs, hle⟩
    rcases hm with h | h
    · rw [h]
      exact hb.imp_right .inl
    · exact .inr (.inr h)

/-- on a non-empty list, started from its head, the fold returns a member that no member beats -/
theorem sel_headD_least {l : List Q} (hl : l ≠ []) (hP : ∀ x ∈ l, P x) (d : Q) :
    sel r l (l.headD d) ∈ l ∧ ∀ x ∈ l, r x (sel r l (l.headD d)) = false := by
  obtain ⟨h, t, rfl⟩ := List.exists_cons_of_ne_nil hl
  have e : sel r (h :: t) h = sel r t h := by rw [sel, List.foldl_cons, ite_self]; rfl
  rw [List.headD_cons, e]
  exact sel_least hasym htr t h hP

/-- where `r` is antisymmetric such a member is unique, so the fold does not depend on the listing order -/
theorem sel_perm {l₁ l₂ : List Q} (hp : l₁.Perm l₂) (hP : ∀ x ∈ l₁, P x)
    (hanti : ∀ a ∈ l₁, ∀ b ∈ l₁, r a b = false → r b a = false → a = b) (d : Q) :
    sel r l₁ (l₁.headD d) = sel r l₂ (l₂.headD d) := by
  by_cases h₁ : l₁ = []
  · subst h₁
    rw [hp.nil_eq]
  · obtain ⟨m₁, a₁⟩ := sel_headD_least hasym htr h₁ hP d
    obtain ⟨m₂, a₂⟩ := sel_headD_least hasym htr (fun e => h₁ (e ▸ hp).eq_nil)
      (fun x hx => hP x (hp.mem_iff.2 hx)) d
    exact hanti _ m₁ _ (hp.mem_iff.2 m₂) (a₂ _ (hp.mem_iff.1 m₁)) (a₁ _ (hp.mem_iff.2 m₂))

end Sel

theorem qMin_eq_sel (l : List Q) : qMin l = sel Q.lt l (l.headD (Q.ofInt 0)) := rfl
theorem qMax_eq_sel (l : List Q) : qMax l = sel (fun x a => Q.lt a x) l (l.headD (Q.ofInt 0)) := rfl

theorem qlt_asymm' (a b : Q) (h : Q.lt a b = true) : Q.lt b a = false := by
  have := qlt_asymm a b
  rw [h] at this
  simpa using this

theorem qMin_perm {l₁ l₂ : List Q} (hp : l₁.Perm l₂) (hpos : ∀ x ∈ l₁, 0 < x.den)
    (hanti : ∀ a ∈ l₁, ∀ b ∈ l₁, Q.lt a b = false → Q.lt b a = false → a = b) :
    qMin l₁ = qMin l₂ := by
  rw [qMin_eq_sel, qMin_eq_sel]
  exact sel_perm (P := fun q => 0 < q.den) qlt_asymm' (fun a b c hb => qlt_le_trans hb) hp hpos hanti _

theorem qMax_perm {l₁ l₂ : List Q} (hp : l₁.Perm l₂) (hpos : ∀ x ∈ l₁, 0 < x.den)
    (hanti : ∀ a ∈ l₁, ∀ b ∈ l₁, Q.lt a b = false → Q.lt b a = false → a = b) :
    qMax l₁ = qMax l₂ := by
  rw [qMax_eq_sel, qMax_eq_sel]
  exact sel_perm (P := fun q => 0 < q.den) (fun a b h => qlt_asymm' b a h)
    (fun a b c hb h1 h2 => qlt_le_trans hb h2 h1) hp hpos
    (fun a ha b hb h1 h2 => hanti a ha b hb h2 h1) _

/-- the precondition of `qMin_perm` / `qMax_perm` for images of normalised dyadics -/
theorem ofDy_list_ok (ds : List Dy) (hn : ∀ d ∈ ds, DyNorm d) :
    (∀ x ∈ ds.map Q.ofDy, 0 < x.den) ∧
    (∀ a ∈ ds.map Q.ofDy, ∀ b ∈ ds.map Q.ofDy, Q.lt a b = false → Q.lt b a = false → a = b) := by
  constructor
  · intro x hx
    obtain ⟨d, _, rfl⟩ := List.mem_map.1 hx
    exact ofDy_den_pos d
  · intro a ha b hb h1 h2
    obtain ⟨d, hd, rfl⟩ := List.mem_map.1 ha
    obtain ⟨d', hd', rfl⟩ := List.mem_map.1 hb
    have : cmpQ (Q.ofDy d) (Q.ofDy d') = .eq := by
      unfold cmpQ
      rw [h1, h2]
      rfl
    rw [ofDy_cmp_eq (hn d hd) (hn d' hd') this]

/-! ### `List.lookup` under unique keys -/

theorem lookup_perm {β : Type} {l l' : List (Nat × β)} (hp : l.Perm l')
    (hnd : (l.map (·.1)).Nodup) (i : Nat) : l.lookup i = l'.lookup i := by
  have hnd' := (hp.map (·.1)).nodup_iff.1 hnd
  apply Option.ext
  intro b
  rw [lookup_eq_some_iff_mem hnd, lookup_eq_some_iff_mem hnd', hp.mem_iff]

end DM.DetermAux
