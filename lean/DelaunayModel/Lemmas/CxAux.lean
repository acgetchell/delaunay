/-
Lemmas/CxAux.lean — lemmas about the executable complex model (Model/Cx.lean) that the lemma files above it
share, in sections: `sortNat` is a sorting permutation, so a facet or cell key identifies the vertex multiset;
`subsetsK` enumerates the sublists of a given length, hence what the entries of `facesK` are; lookups by id;
the facet incidences `allFacets` (pairwise distinct under unique ids, so `facetDeg` counts the other carriers
plus one); the per-cell checks, `nbSlot`, and `checkL2` as the conjunction of its parts.  Core only (no Mathlib).
-/
import DelaunayModel.Model.Cx
import DelaunayModel.Lemmas.ListAux
namespace DM

/-! ### `sortNat`, `insertSorted` -/

theorem insertSorted_perm (x : Nat) (l : List Nat) : (insertSorted x l).Perm (x :: l) := by
  induction l with
  | nil => exact List.Perm.refl _
  | cons y ys ih =>
    unfold insertSorted
    split
    · exact List.Perm.refl _
    · exact (List.Perm.cons y ih).trans (List.Perm.swap x y ys)

theorem sortNat_perm (l : List Nat) : (sortNat l).Perm l := by
  induction l with
  | nil => exact List.Perm.refl _
  | cons x xs ih => exact (insertSorted_perm x _).trans (List.Perm.cons x ih)

theorem insertSorted_pairwise (x : Nat) (l : List Nat) (h : l.Pairwise (· ≤ ·)) :
    (insertSorted x l).Pairwise (· ≤ ·) := by
  induction l with
  | nil => simp [insertSorted]
  | cons y ys ih =>
    unfold insertSorted
    split
    · rename_i hxy
      refine List.pairwise_cons.2 ⟨?_, h⟩
      intro z hz
      rcases List.mem_cons.1 hz with rfl | hz
      · exact hxy
      · exact Nat.le_trans hxy ((List.pairwise_cons.1 h).1 z hz)
    · rename_i hxy
      refine List.pairwise_cons.2 ⟨?_, ih (List.pairwise_cons.1 h).2⟩
      intro z hz
      have hz' := (insertSorted_perm x ys).mem_iff.1 hz
      rcases List.mem_cons.1 hz' with rfl | hz'
      · omega
      · exact (List.pairwise_cons.1 h).1 z hz'

theorem sortNat_sorted (l : List Nat) : (sortNat l).Pairwise (· ≤ ·) := by
  induction l with
  | nil => exact List.Pairwise.nil
  | cons x xs ih => exact insertSorted_pairwise x _ ih

theorem sortNat_eq_iff_perm (a b : List Nat) : sortNat a = sortNat b ↔ a.Perm b := by
  constructor
  · intro h
    exact (sortNat_perm a).symm.trans (h ▸ sortNat_perm b)
  · intro h
    exact sorted_perm_eq (sortNat_sorted a) (sortNat_sorted b)
      ((sortNat_perm a).trans (h.trans (sortNat_perm b).symm))

theorem sortNat_length (l : List Nat) : (sortNat l).length = l.length := (sortNat_perm l).length_eq

theorem mem_sortNat {x : Nat} {l : List Nat} : x ∈ sortNat l ↔ x ∈ l := (sortNat_perm l).mem_iff

theorem sortNat_nodup {l : List Nat} (h : l.Nodup) : (sortNat l).Nodup :=
  (sortNat_perm l).nodup_iff.2 h

theorem sortNat_lt_sorted {l : List Nat} (h : l.Nodup) : (sortNat l).Pairwise (· < ·) :=
  le_sorted_nodup_lt (sortNat_sorted l) (sortNat_nodup h)

theorem sortNat_of_sorted {l : List Nat} (h : l.Pairwise (· ≤ ·)) : sortNat l = l :=
  sorted_perm_eq (sortNat_sorted l) h (sortNat_perm l)

theorem sublist_insertSorted (x : Nat) (l : List Nat) : l.Sublist (insertSorted x l) := by
  induction l with
  | nil => simp [insertSorted]
  | cons y ys ih =>
    unfold insertSorted
    split
    · exact List.sublist_cons_self _ _
    · exact ih.cons_cons y

/-- a facet key is a sublist of the cell key -/
theorem sortNat_eraseIdx_sublist (l : List Nat) (i : Nat) :
    (sortNat (l.eraseIdx i)).Sublist (sortNat l) := by
  by_cases h : i < l.length
  · have hp := perm_cons_eraseIdx l i h
    have : sortNat l = sortNat (l[i] :: l.eraseIdx i) := (sortNat_eq_iff_perm _ _).2 hp
    rw [this]
    exact sublist_insertSorted _ _
  · rw [List.eraseIdx_of_length_le (by omega)]
    exact List.Sublist.refl _

/-- every sublist of the cell key missing one element is a facet key -/
theorem sublist_sortNat_eq_eraseIdx {l s : List Nat} (hs : s.Sublist (sortNat l))
    (hl : l.length = s.length + 1) : ∃ i, i < l.length ∧ s = sortNat (l.eraseIdx i) := by
  obtain ⟨j, hj, rfl⟩ := sublist_eq_eraseIdx hs (by rw [sortNat_length]; exact hl)
  have hx : (sortNat l)[j] ∈ l := mem_sortNat.1 (List.getElem_mem hj)
  obtain ⟨i, hi, hxi⟩ := List.getElem_of_mem hx
  refine ⟨i, hi, ?_⟩
  have p1 := perm_cons_eraseIdx (sortNat l) j hj
  have p2 := perm_cons_eraseIdx l i hi
  have p3 : ((sortNat l)[j] :: (sortNat l).eraseIdx j).Perm ((sortNat l)[j] :: l.eraseIdx i) := by
    rw [hxi] at p2
    exact p1.symm.trans ((sortNat_perm l).trans p2)
  have p4 : ((sortNat l).eraseIdx j).Perm (l.eraseIdx i) := List.Perm.cons_inv p3
  exact sorted_perm_eq ((sortNat_sorted l).sublist (List.eraseIdx_sublist _ _)) (sortNat_sorted _)
    (p4.trans (sortNat_perm _).symm)

/-! ### `subsetsK`, `facesK` -/

theorem dedup_eq (l : List (List Nat)) : dedup l = dedupL l := rfl

theorem subsetsK_mem {k : Nat} {l s : List Nat} :
    s ∈ subsetsK k l ↔ s.Sublist l ∧ s.length = k := by
  induction l generalizing k s with
  | nil =>
    cases k with
    | zero =>
      simp only [subsetsK, List.mem_singleton, List.sublist_nil]
      constructor
      · rintro rfl; exact ⟨rfl, rfl⟩
      · exact fun h => h.1
    | succ k =>
      simp only [subsetsK, List.not_mem_nil, List.sublist_nil, false_iff]
      rintro ⟨rfl, h⟩
      cases h
  | cons x xs ih =>
    cases k with
    | zero =>
      simp only [subsetsK, List.mem_singleton]
      constructor
      · rintro rfl; exact ⟨List.nil_sublist _, rfl⟩
      · exact fun h => List.length_eq_zero_iff.1 h.2
    | succ k =>
      simp only [subsetsK, List.mem_append, List.mem_map, ih, List.sublist_cons_iff]
      constructor
      · rintro (⟨r', ⟨hs, hl⟩, rfl⟩ | ⟨hs, hl⟩)
        · exact ⟨Or.inr ⟨r', rfl, hs⟩, by simp [hl]⟩
        · exact ⟨Or.inl hs, hl⟩
      · rintro ⟨hs | ⟨r', rfl, hs⟩, hl⟩
        · exact Or.inr ⟨hs, hl⟩
        · exact Or.inl ⟨r', ⟨hs, by simpa using hl⟩, rfl⟩

theorem subsetsK_length {k : Nat} {l s : List Nat} (h : s ∈ subsetsK k l) : s.length = k :=
  (subsetsK_mem.1 h).2

theorem subsetsK_sublist {k : Nat} {l s : List Nat} (h : s ∈ subsetsK k l) : s.Sublist l :=
  (subsetsK_mem.1 h).1

/-- the 2-element sublists written as pairs, as `cellEdges` and the link skeleton list them -/
theorem mem_pairs_subsetsK (l : List Nat) (a b : Nat) :
    (a, b) ∈ (subsetsK 2 l).filterMap (fun e => match e with | [x, y] => some (x, y) | _ => none) ↔
      [a, b].Sublist l :=
  (mem_filterMap_pairOf (subsetsK 2 l) a b).trans (subsetsK_mem.trans (and_iff_left rfl))

theorem mem_facesK (K : Cx) (k : Nat) (r : List Nat) :
    r ∈ facesK K k ↔ ∃ c ∈ K.cells, r.Sublist (cellKey c) ∧ r.length = k := by
  unfold facesK
  rw [dedup_eq, mem_dedupL, List.mem_flatMap]
  simp only [subsetsK_mem]

theorem facesK_nodup (K : Cx) (k : Nat) : (facesK K k).Nodup := by
  unfold facesK
  rw [dedup_eq]
  exact nodup_dedupL _

/-! ### lookups by id -/

theorem Cx.cellById_some {K : Cx} {k : Nat} {c : Cell} (h : K.cellById k = some c) :
    c ∈ K.cells ∧ c.id = k := by
  unfold Cx.cellById at h
  exact ⟨List.mem_of_find?_eq_some h, by simpa using List.find?_some h⟩

theorem Cx.cellById_none {K : Cx} {k : Nat} : K.cellById k = none ↔ ∀ c ∈ K.cells, c.id ≠ k := by
  unfold Cx.cellById
  simp only [List.find?_eq_none, beq_iff_eq, ne_eq]

theorem Cx.cellById_iff {K : Cx} (hnd : (K.cells.map (·.id)).Nodup) (k : Nat) (c : Cell) :
    K.cellById k = some c ↔ c ∈ K.cells ∧ c.id = k := by
  refine ⟨Cx.cellById_some, ?_⟩
  rintro ⟨hc, rfl⟩
  cases h : K.cellById c.id with
  | none => exact absurd rfl (Cx.cellById_none.1 h c hc)
  | some c' =>
    obtain ⟨hc', hid⟩ := Cx.cellById_some h
    rw [inj_of_nodup_map (·.id) hnd hc' hc hid]

theorem Cx.hasVertex_iff (K : Cx) (v : Nat) : K.hasVertex v = true ↔ ∃ x ∈ K.verts, x.id = v := by
  unfold Cx.hasVertex
  simp only [List.any_eq_true, beq_iff_eq]

theorem Cx.cellById_isSome_of_mem {K : Cx} {c : Cell} (h : c ∈ K.cells) :
    (K.cellById c.id).isSome = true := by
  unfold Cx.cellById
  rw [List.find?_isSome]
  exact ⟨c, h, by simp⟩

theorem LocateAux.cellById_none_of_nil {K : Cx} (h : K.cells = []) (k : Nat) : K.cellById k = none := by
  simp [Cx.cellById, h]

theorem Cx.mem_ids_of_cellById {K : Cx} {k : Nat} {c : Cell} (h : K.cellById k = some c) :
    k ∈ K.cells.map (·.id) := by
  obtain ⟨hm, rfl⟩ := Cx.cellById_some h
  exact List.mem_map.2 ⟨c, hm, rfl⟩

theorem cellPts_length {K : Cx} {emin : Int} {c : Cell} {s : List IPt}
    (h : cellPts K emin c = some s) : s.length = c.vs.length :=
  mapM_option_length _ _ _ h

/-! ### facet incidences: `allFacets`, `facetDeg`, `boundaryFacets` -/

theorem mem_allFacets {K : Cx} {f : List Nat × Nat × Nat} :
    f ∈ allFacets K ↔ ∃ c ∈ K.cells, ∃ i, i < c.vs.length ∧ f = (facetKey c i, c.id, i) := by
  unfold allFacets
  simp only [List.mem_flatMap, List.mem_map, List.mem_range, eq_comm]

theorem mem_allFacets_of {K : Cx} {c : Cell} {i : Nat} (hc : c ∈ K.cells) (hi : i < c.vs.length) :
    (facetKey c i, c.id, i) ∈ allFacets K :=
  mem_allFacets.2 ⟨c, hc, i, hi, rfl⟩

/-- the facet triples contributed by a list of cells (`allFacets K = facetsOf K.cells`) -/
def facetsOf (cells : List Cell) : List (List Nat × Nat × Nat) :=
  cells.flatMap (fun c => (List.range c.vs.length).map (fun i => (facetKey c i, c.id, i)))

theorem allFacets_eq (K : Cx) : allFacets K = facetsOf K.cells := rfl

theorem allFacets_nodup {K : Cx} (hnd : (K.cells.map (·.id)).Nodup) : (allFacets K).Nodup := by
  unfold allFacets
  rw [List.nodup_iff_pairwise_ne, List.pairwise_flatMap]
  constructor
  · intro c _
    rw [List.pairwise_map]
    exact List.nodup_range.imp (fun h e => h (congrArg (·.2.2) e))
  · refine (List.pairwise_map.1 hnd).imp (fun h x hx y hy e => ?_)
    obtain ⟨_, _, rfl⟩ := List.mem_map.1 hx
    obtain ⟨_, _, rfl⟩ := List.mem_map.1 hy
    exact h (congrArg (·.2.1) e)

theorem facetDeg_pos_of_mem {K : Cx} {f : List Nat × Nat × Nat} (hf : f ∈ allFacets K) :
    0 < facetDeg K f.1 := by
  unfold facetDeg
  exact List.countP_pos_iff.2 ⟨f, hf, by simp⟩

/-- the carriers of the key of `(c, i)` are the others and, exactly once (`allFacets_nodup`),
`(c, i)` itself -/
theorem facetDeg_eq_facetOthers_length {K : Cx} (hnd : (K.cells.map (·.id)).Nodup) {c : Cell}
    (hc : c ∈ K.cells) {i : Nat} (hi : i < c.vs.length) :
    facetDeg K (facetKey c i) = (facetOthers K c i).length + 1 := by
  unfold facetDeg facetOthers
  rw [List.length_map, ← List.countP_eq_length_filter,
    List.countP_eq_countP_filter_add _ _ (fun f => f.2.1 == c.id && f.2.2 == i), Nat.add_comm,
    List.countP_filter, List.countP_filter]
  congr 1
  have h1 := (allFacets_nodup hnd).count (a := (facetKey c i, c.id, i))
  rw [if_pos (mem_allFacets_of hc hi), List.count_eq_countP] at h1
  rw [← h1]
  -- `BEq` on the triple unfolds to `f.1 == k && (f.2.1 == c.id && f.2.2 == i)`
  rfl

theorem length_le_facetDeg {K : Cx} {key : List Nat} {ts : List (List Nat × Nat × Nat)}
    (hnd : ts.Nodup) (h : ∀ t ∈ ts, t ∈ allFacets K ∧ t.1 = key) : ts.length ≤ facetDeg K key := by
  unfold facetDeg
  rw [List.countP_eq_length_filter]
  exact hnd.length_le_of_subset fun t ht =>
    List.mem_filter.2 ⟨(h t ht).1, beq_iff_eq.2 (h t ht).2⟩

theorem mem_boundaryFacets {K : Cx} {k : List Nat} :
    k ∈ boundaryFacets K ↔ (∃ f ∈ allFacets K, f.1 = k) ∧ facetDeg K k = 1 := by
  unfold boundaryFacets
  rw [List.mem_map]
  constructor
  · rintro ⟨f, hf, rfl⟩
    rw [List.mem_filter] at hf
    exact ⟨⟨f, hf.1, rfl⟩, by simpa using hf.2⟩
  · rintro ⟨⟨f, hf, rfl⟩, hd⟩
    exact ⟨f, List.mem_filter.2 ⟨hf, by simpa using hd⟩, rfl⟩

theorem mem_dropEach {l r : List Nat} : r ∈ dropEach l ↔ ∃ i, i < l.length ∧ r = l.eraseIdx i := by
  unfold dropEach
  simp only [List.mem_map, List.mem_range, eq_comm]

/-! ### the per-cell checks and `nbSlot` -/

theorem nbLenOk_iff (D : Nat) (nb : Option (List (Option Nat))) :
    (match nb with | none => true | some l => l.length == D + 1) = true ↔
      ∀ l, nb = some l → l.length = D + 1 := by
  cases nb with
  | none => exact ⟨fun _ _ h => (nomatch h), fun _ => rfl⟩
  | some l => simp only [beq_iff_eq, Option.some.injEq, forall_eq']

theorem Vtx.okL1_iff (D : Nat) (v : Vtx) :
    Vtx.okL1 D v = true ↔ ∃ p, v.pt = some p ∧ p.length = D := by
  unfold Vtx.okL1
  cases v.pt <;> simp

theorem Cell.okL1_iff (D : Nat) (c : Cell) :
    Cell.okL1 D c = true ↔
      c.vs.length = D + 1 ∧ c.vs.Nodup ∧ ∀ l, c.nb = some l → l.length = D + 1 := by
  unfold Cell.okL1
  rw [Bool.and_eq_true, Bool.and_eq_true, beq_iff_eq, decide_eq_true_eq, and_assoc]
  exact and_congr Iff.rfl (and_congr Iff.rfl (nbLenOk_iff D c.nb))

theorem nbSlot_of_nb_none {c : Cell} (h : c.nb = none) (i : Nat) : nbSlot c i = none := by
  simp [nbSlot, h]

theorem nbSlot_eq_some {c : Cell} {i n : Nat} (h : nbSlot c i = some n) :
    ∃ l, c.nb = some l ∧ some n ∈ l := by
  unfold nbSlot at h
  split at h
  · cases h
  · rename_i l hl
    refine ⟨l, hl, ?_⟩
    cases hg : l[i]? with
    | none => simp [hg] at h
    | some o => exact (by simpa [hg] using h : o = some n) ▸ List.mem_of_getElem? hg

/-- for callers that need the parts as Booleans (Props/C05.lean turns each into its `Prop`) -/
theorem checkL2_parts {K : Cx} (h : checkL2 K = true) :
    idsUnique K = true ∧ vertsExist K = true ∧ incidentOk K = true ∧ noDupCells K = true ∧
      facetLe2 K = true ∧ nbrOk K = true ∧ coherent K = true := by
  simpa only [checkL2, Bool.and_eq_true, and_assoc] using h

end DM
