/-
Lemmas/LinkAux.lean — graphs given as edge lists (`graphVerts`, `dedupEdges`, `graphReach`,
`graphConnected`, `degIn` in Model/Cx.lean), which the ridge-link and vertex-link validators search;
used by Props/C05.lean §8 and Lemmas/VertexLinkAux.lean:
 * the declarative graph relations `IsVert`, `Adj`, `GReach` on an edge list,
 * one sweep `gRound` of `graphReach` pushes, for every edge in both directions, the far endpoint
   if the near one is in (`gRound_eq`), hence is a `Round` for `Adj es` in the sense of
   Lemmas/Closure.lean (`gRound_round`),
 * `graphReach_covers_iff`: the search from the first entry of a duplicate-free bounding vertex
   list `B`, with fuel `B.length`, collects `B.length` vertices iff `B` is path-connected
   (`graphConnected` is the case `B := graphVerts es`, `linkSkeletonConnected` the case
   `B := linkVerts link`),
 * passing from an edge list to its normalised duplicate-free form changes neither vertices nor
   adjacency.
The de-duplicating fold `dedupL` is in Lemmas/ListAux.lean.  Core only (no Mathlib).
-/
import DelaunayModel.Model.Cx
import DelaunayModel.Lemmas.Closure
namespace DM

theorem graphVerts_eq (es : List (Nat × Nat)) :
    graphVerts es = dedupL (es.flatMap (fun e => [e.1, e.2])) := rfl

theorem dedupEdges_eq (es : List (Nat × Nat)) : dedupEdges es = dedupL (es.map normEdge) := rfl

def IsVert (es : List (Nat × Nat)) (v : Nat) : Prop := ∃ e ∈ es, v = e.1 ∨ v = e.2

def Adj (es : List (Nat × Nat)) (a b : Nat) : Prop := (a, b) ∈ es ∨ (b, a) ∈ es

inductive GReach (es : List (Nat × Nat)) (a : Nat) : Nat → Prop
  | refl : GReach es a a
  | step {b c : Nat} : GReach es a b → Adj es b c → GReach es a c

theorem Adj.symm {es : List (Nat × Nat)} {a b : Nat} (h : Adj es a b) : Adj es b a := Or.symm h

theorem GReach.trans {es : List (Nat × Nat)} {a b c : Nat} (h1 : GReach es a b)
    (h2 : GReach es b c) : GReach es a c := by
  induction h2 with
  | refl => exact h1
  | step _ hadj ih => exact GReach.step ih hadj

theorem GReach.symm {es : List (Nat × Nat)} {a b : Nat} (h : GReach es a b) : GReach es b a := by
  induction h with
  | refl => exact GReach.refl
  | step _ hadj ih => exact (GReach.step GReach.refl hadj.symm).trans ih

theorem GReach.mono {es es' : List (Nat × Nat)} (h : ∀ a b, Adj es a b → Adj es' a b) {a b : Nat}
    (hr : GReach es a b) : GReach es' a b := by
  induction hr with
  | refl => exact GReach.refl
  | step _ hadj ih => exact GReach.step ih (h _ _ hadj)

theorem mem_graphVerts (es : List (Nat × Nat)) (v : Nat) : v ∈ graphVerts es ↔ IsVert es v := by
  rw [graphVerts_eq, mem_dedupL, List.mem_flatMap]
  unfold IsVert
  simp only [List.mem_cons, List.not_mem_nil, or_false]

theorem graphVerts_nodup (es : List (Nat × Nat)) : (graphVerts es).Nodup := by
  rw [graphVerts_eq]; exact nodup_dedupL _

theorem normEdge_cases (e : Nat × Nat) : normEdge e = e ∨ normEdge e = (e.2, e.1) := by
  unfold normEdge
  split
  · exact Or.inl rfl
  · exact Or.inr rfl

theorem mem_dedupEdges (es : List (Nat × Nat)) (x : Nat × Nat) :
    x ∈ dedupEdges es ↔ ∃ e ∈ es, normEdge e = x := by
  rw [dedupEdges_eq, mem_dedupL, List.mem_map]

theorem dedupEdges_nodup (es : List (Nat × Nat)) : (dedupEdges es).Nodup := by
  rw [dedupEdges_eq]; exact nodup_dedupL _

/-- by the symmetry of `Adj` one orientation of the edge suffices in each direction -/
theorem adj_dedupEdges (es : List (Nat × Nat)) (a b : Nat) :
    Adj (dedupEdges es) a b ↔ Adj es a b := by
  have h1 : ∀ a b, (a, b) ∈ dedupEdges es → Adj es a b := by
    intro a b h
    obtain ⟨e, he, h⟩ := (mem_dedupEdges es _).1 h
    rcases normEdge_cases e with h' | h'
    · exact Or.inl (h'.symm.trans h ▸ he)
    · obtain ⟨rfl, rfl⟩ := Prod.mk.inj (h'.symm.trans h)
      exact Or.inr he
  have h2 : ∀ a b, (a, b) ∈ es → Adj (dedupEdges es) a b := by
    intro a b h
    rcases normEdge_cases (a, b) with h' | h'
    · exact Or.inl ((mem_dedupEdges es _).2 ⟨_, h, h'⟩)
    · exact Or.inr ((mem_dedupEdges es _).2 ⟨_, h, h'⟩)
  exact ⟨fun h => h.elim (h1 a b) (fun h => (h1 b a h).symm),
    fun h => h.elim (h2 a b) (fun h => (h2 b a h).symm)⟩

theorem isVert_iff_adj (es : List (Nat × Nat)) (v : Nat) : IsVert es v ↔ ∃ w, Adj es v w := by
  unfold IsVert Adj
  constructor
  · rintro ⟨e, he, rfl | rfl⟩
    · exact ⟨e.2, Or.inl he⟩
    · exact ⟨e.1, Or.inr he⟩
  · rintro ⟨w, h | h⟩
    · exact ⟨_, h, Or.inl rfl⟩
    · exact ⟨_, h, Or.inr rfl⟩

theorem isVert_dedupEdges (es : List (Nat × Nat)) (v : Nat) :
    IsVert (dedupEdges es) v ↔ IsVert es v := by
  simp only [isVert_iff_adj, adj_dedupEdges]

theorem greach_dedupEdges (es : List (Nat × Nat)) (a b : Nat) :
    GReach (dedupEdges es) a b ↔ GReach es a b :=
  ⟨GReach.mono (fun a b => (adj_dedupEdges es a b).1),
   GReach.mono (fun a b => (adj_dedupEdges es a b).2)⟩

theorem degIn_eq_length_filter (es : List (Nat × Nat)) (v : Nat) :
    degIn es v = (es.filter (fun e => e.1 == v || e.2 == v)).length :=
  List.countP_eq_length_filter

/-- one sweep over all edges: with each edge, first its second endpoint is pushed if the first is
in, then the first if the second is in -/
def gRound (es : List (Nat × Nat)) (seen : List Nat) : List Nat :=
  es.foldl (fun acc e =>
    let acc := pushNew (acc.contains e.1) e.2 acc
    pushNew (acc.contains e.2) e.1 acc) seen

theorem graphReach_zero (es : List (Nat × Nat)) (seen : List Nat) : graphReach es 0 seen = seen :=
  rfl

theorem graphReach_succ (es : List (Nat × Nat)) (f : Nat) (seen : List Nat) :
    graphReach es (f + 1) seen =
      if (gRound es seen).length == seen.length then seen else graphReach es f (gRound es seen) :=
  rfl

theorem gRound_eq (es : List (Nat × Nat)) (s : List Nat) :
    gRound es s = (es.flatMap fun e => [(e.1, e.2), (e.2, e.1)]).foldl
      (fun acc p => pushNew (acc.contains p.1) p.2 acc) s := by
  rw [List.foldl_flatMap]
  rfl

theorem gRound_round (es : List (Nat × Nat)) : Round (Adj es) (gRound es) :=
  (Round.of_pushes (R := Adj es) (es.flatMap fun e => [(e.1, e.2), (e.2, e.1)])
    (fun _ acc p => acc.contains p.1) (·.2)
    (fun _ acc p _ hp hc => by
      refine ⟨p.1, List.contains_iff_mem.1 hc, ?_⟩
      obtain ⟨e, he, hpe⟩ := List.mem_flatMap.1 hp
      rcases List.mem_cons.1 hpe with rfl | hpe
      · exact Or.inl he
      · exact Or.inr (List.mem_singleton.1 hpe ▸ he))
    (fun s a b ha hab => by
      refine ⟨(a, b), List.mem_flatMap.2 ?_, List.contains_iff_mem.2 ha, rfl⟩
      rcases hab with h | h
      · exact ⟨(a, b), h, List.mem_cons_self⟩
      · exact ⟨(b, a), h, List.mem_cons_of_mem _ List.mem_cons_self⟩)).congr (gRound_eq es)

theorem graphReach_eq (es : List (Nat × Nat)) (f : Nat) (s : List Nat) :
    graphReach es f s = growFuel (gRound es) f s := by
  induction f generalizing s with
  | zero => rfl
  | succ f ih =>
    rw [graphReach_succ, ih]
    rfl

theorem IsClosure.mem_iff_greach {es : List (Nat × Nat)} {v : Nat} {r : List Nat}
    (hr : IsClosure (Adj es) v r) {x : Nat} : x ∈ r ↔ GReach es v x := by
  constructor
  · exact hr.least (GReach es v) .refl (fun _ _ h hab => .step h hab) x
  · intro h
    induction h with
    | refl => exact hr.start
    | step _ hadj ih => exact hr.closed _ _ ih hadj

/-- the test both `graphConnected` (`B := graphVerts es`) and `linkSkeletonConnected`
(`B := linkVerts link`) run: search from the first entry of a duplicate-free vertex list `B` that
contains all endpoints, with fuel `B.length`, and compare lengths -/
theorem graphReach_covers_iff (es : List (Nat × Nat)) {B : List Nat} (hBnd : B.Nodup)
    (hB : ∀ e ∈ es, e.1 ∈ B ∧ e.2 ∈ B) :
    (match (generalizing := false) B with
      | [] => true
      | v :: rest => (graphReach es (rest.length + 1) [v]).length == rest.length + 1) = true ↔
      ∀ u w, u ∈ B → w ∈ B → GReach es u w := by
  match B, hBnd, hB with
  | [], _, _ => exact ⟨fun _ _ _ h => (nomatch h), fun _ => rfl⟩
  | v :: rest, hBnd, hB =>
    have hv : v ∈ v :: rest := List.mem_cons_self
    have hcl : ∀ a b, a ∈ v :: rest → Adj es a b → b ∈ v :: rest := fun _ _ _ hab =>
      hab.elim (fun h => (hB _ h).2) (fun h => (hB _ h).1)
    have hr := graphReach_eq es _ [v] ▸ (gRound_round es).isClosure hcl hv (Nat.le_refl _)
    rw [beq_iff_eq]
    refine (hr.length_eq_iff hv hcl).trans ⟨fun h u w hu hw => ?_, fun h => ⟨hBnd, fun x hx => ?_⟩⟩
    · exact (hr.mem_iff_greach.1 (h.2 hu)).symm.trans (hr.mem_iff_greach.1 (h.2 hw))
    · exact hr.mem_iff_greach.2 (h v x hv hx)

end DM
