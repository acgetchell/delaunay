/-
Lemmas/DupAux.lean — lemmas about Model/DupCache.lean for Props/C09 (duplicate-coordinate cache):
two integer coordinates closer than the cell size fall into the same or adjacent grid cells
(`floor_close`), every term of `dist2` is at most `dist2` (`sq_sub_le_dist2`), hence a point within
tolerance lies in a neighbouring bucket (`grid_complete`); what the renumbering `rekey` keeps
(coordinates) and makes (keys `b, b+1, …`).  Core only (no Mathlib).
-/
import DelaunayModel.Model.DupCache
import DelaunayModel.Lemmas.ListAux
namespace DM.DupAux

open DM.DupCache

/-! ### integer arithmetic -/

theorem sq_nonneg (a : Int) : 0 ≤ a * a :=
  Int.natAbs_mul_self' a ▸ Int.natCast_nonneg _

theorem sq_sub_comm (a b : Int) : (a - b) * (a - b) = (b - a) * (b - a) := by
  rw [← Int.neg_sub b a, Int.neg_mul_neg]

theorem abs_lt_of_sq_lt {d c : Int} (hc : 0 < c) (h : d * d < c * c) : -c < d ∧ d < c := by
  -- `|d|² < |c|²`, so `|d| < |c| = c`
  rw [← Int.natAbs_mul_self' d, ← Int.natAbs_mul_self' c] at h
  have := Nat.mul_self_lt_mul_self_iff.1 (Int.ofNat_lt.1 h)
  omega

theorem ediv_le_succ_of_lt_add {x y c : Int} (hc : 0 < c) (h : x < y + c) : x / c - y / c ≤ 1 := by
  have h1 : x / c ≤ (y + 1 * c) / c := Int.ediv_le_ediv hc (by omega)
  rw [Int.add_mul_ediv_right _ _ (by omega : c ≠ 0)] at h1
  omega

theorem floor_close {x y c : Int} (hc : 0 < c) (h : (x - y) * (x - y) < c * c) :
    x / c - y / c ≤ 1 ∧ y / c - x / c ≤ 1 := by
  have ⟨h1, h2⟩ := abs_lt_of_sq_lt hc h
  exact ⟨ediv_le_succ_of_lt_add hc (by omega), ediv_le_succ_of_lt_add hc (by omega)⟩

/-! ### lists: a sum of non-negative terms, `zipWith` as a map over `zip` -/

theorem foldl_add_bounds (l : List Int) (hl : ∀ x ∈ l, 0 ≤ x) (a : Int) :
    a ≤ l.foldl (· + ·) a ∧ ∀ x ∈ l, a + x ≤ l.foldl (· + ·) a := by
  induction l generalizing a with
  | nil => simp
  | cons y ys ih =>
    have hy : 0 ≤ y := hl y (by simp)
    have ih' := ih (fun x hx => hl x (by simp [hx])) (a + y)
    simp only [List.foldl_cons]
    refine ⟨by omega, ?_⟩
    intro x hx
    rcases List.mem_cons.1 hx with rfl | hx
    · exact ih'.1
    · have := ih'.2 x hx
      omega

theorem forall_mem_zipWith {α β γ : Type} {f : α → β → γ} {P : γ → Prop} {l : List α}
    {l' : List β} : (∀ t ∈ List.zipWith f l l', P t) ↔ ∀ ab ∈ l.zip l', P (f ab.1 ab.2) := by
  rw [← List.map_uncurry_zip_eq_zipWith, List.forall_mem_map]
  rfl

/-! ### `dist2` and the grid neighbourhood -/

/-- the squared difference of each pair of corresponding coordinates is at most `dist2` -/
theorem sq_sub_le_dist2 {p q : Pt} {ab : Int × Int} (h : ab ∈ p.zip q) :
    (ab.1 - ab.2) * (ab.1 - ab.2) ≤ dist2 p q := by
  have hnn : ∀ t ∈ List.zipWith (fun a b : Int => (a - b) * (a - b)) p q, 0 ≤ t :=
    forall_mem_zipWith.2 fun _ _ => sq_nonneg _
  have := forall_mem_zipWith.1 (foldl_add_bounds _ hnn 0).2 ab h
  rwa [Int.zero_add] at this

theorem nearBucket_of_terms {c : Int} (hc : 0 < c) (p q : Pt) (hlen : p.length = q.length)
    (h : ∀ ab ∈ p.zip q, (ab.1 - ab.2) * (ab.1 - ab.2) < c * c) :
    nearBucket (bucket c q) (bucket c p) = true := by
  -- equal lengths; the coordinate-wise test is a test on the pairs of `p.zip q`
  rw [nearBucket, bucket, bucket, List.length_map, List.length_map, hlen, beq_self_eq_true,
    Bool.true_and, List.all_eq_true, List.zipWith_map, List.zipWith_comm, forall_mem_zipWith]
  intro ab hab
  have ⟨h1, h2⟩ := floor_close hc (h ab hab)
  exact decide_eq_true ⟨h2, h1⟩

theorem grid_complete {c : Int} (hc : 0 < c) (p q : Pt) (hlen : p.length = q.length)
    (h : dist2 p q < c * c) : nearBucket (bucket c q) (bucket c p) = true :=
  nearBucket_of_terms hc p q hlen fun _ hab => Int.lt_of_le_of_lt (sq_sub_le_dist2 hab) h

/-! ### `rekey` (the renumbering done by `Op.rebuild`) -/

theorem rekey_nil (b : Nat) : rekey b [] = [] := rfl

theorem rekey_length (b : Nat) (vs : List (Nat × Pt)) : (rekey b vs).length = vs.length := by
  simp [rekey]

theorem rekey_map_snd (b : Nat) (vs : List (Nat × Pt)) :
    (rekey b vs).map (·.2) = vs.map (·.2) := by
  have h : (rekey b vs).map (·.2) = (vs.zipIdx.map Prod.fst).map (·.2) := by
    rw [rekey, List.map_map, List.map_map]; rfl
  rw [h, List.zipIdx_map_fst]

theorem rekey_map_fst (b : Nat) (vs : List (Nat × Pt)) :
    (rekey b vs).map (·.1) = List.range' b vs.length := by
  have h : (rekey b vs).map (·.1) = (vs.zipIdx.map Prod.snd).map (b + ·) := by
    rw [rekey, List.map_map, List.map_map]; rfl
  rw [h, List.zipIdx_map_snd, List.map_add_range', Nat.add_zero]

theorem rekey_keys_nodup (b : Nat) (vs : List (Nat × Pt)) : ((rekey b vs).map (·.1)).Nodup := by
  rw [rekey_map_fst]
  exact List.nodup_range'

theorem exists_of_mem_rekey {b : Nat} {vs : List (Nat × Pt)} {v : Nat × Pt} (h : v ∈ rekey b vs) :
    ∃ w ∈ vs, w.2 = v.2 := by
  have : v.2 ∈ (rekey b vs).map (·.2) := List.mem_map.2 ⟨v, h, rfl⟩
  rw [rekey_map_snd] at this
  obtain ⟨w, hw, hw'⟩ := List.mem_map.1 this
  exact ⟨w, hw, hw'⟩

end DM.DupAux
