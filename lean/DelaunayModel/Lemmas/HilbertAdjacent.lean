/-
Lemmas/HilbertAdjacent.lean — consecutive points of `hilbertPoint D b` are at L1 distance 1 for every depth
`b`, in every dimension that passes the finite check `cornerOk D` (`adjacent_of_cornerOk`; `cornerOk_le_five`
evaluates it for `D ≤ 5`).  Induction on `b` along the self-similarity of the curve (`hilbertPoint_succ`): the
top digit `w` of the index selects a block, inside which the curve is the curve one level down, coordinate 0
complemented for odd `w`, under the Gray code of `w` as top bit plane, sent through the last pass.  Inside a
block that map keeps L1 distances (`l1_block`).  Across a block boundary both points are images of corner
cells, all zeros or all ones below the top bit in every coordinate, on which the pass acts as on a single bit
(`lowPass_map`): how blocks `w` and `w + 1` meet is a question about one bit plane, `cornerOk D`.  There the
two images must be `(top bit, low bits) = (0, ones)` against `(1, zeros)` in one coordinate, which is distance
1 at every depth; distance 1 on the one plane would not do.
-/
import DelaunayModel.Lemmas.HilbertInverse
namespace DM.HilbertAux
open DM DM.Hilbert

/-! ### bits above the mask pass through -/

/-- xor-ing bits that a pass neither reads nor writes (above its mask bit `e`; for the running first
coordinate, whose bit `e` the exchange does not read, from `e` on) commutes with the exchange -/
theorem exch_xor_high {e hf hc : Nat} (h1 : ∀ k < e, hf.testBit k = false) (h2 : ∀ k ≤ e, hc.testBit k = false)
    (f c : Nat) :
    exch (2 ^ e) (f ^^^ hf) (c ^^^ hc) = ((exch (2 ^ e) f c).1 ^^^ hf, (exch (2 ^ e) f c).2 ^^^ hc) := by
  have hce : (c ^^^ hc).testBit e = c.testBit e := by rw [Nat.testBit_xor, h2 e (Nat.le_refl e), Bool.xor_false]
  refine Prod.ext (Nat.eq_of_testBit_eq fun k => ?_) (Nat.eq_of_testBit_eq fun k => ?_)
  · simp only [Nat.testBit_xor, exch_fst_testBit, hce]
    by_cases hk : k < e
    · simp [hk, h1 k hk, h2 k (Nat.le_of_lt hk)]
    · simp [hk]
  · simp only [Nat.testBit_xor, exch_snd_testBit, hce]
    by_cases hk : k < e
    · simp [hk, h1 k hk, h2 k (Nat.le_of_lt hk)]
    · simp [hk]

theorem head0_xor_high {e h : Nat} (hh : ∀ k ≤ e, h.testBit k = false) (f : Nat) :
    head0 (2 ^ e) (f ^^^ h) = head0 (2 ^ e) f ^^^ h := by
  rw [head0_eq, head0_eq, Nat.testBit_xor, hh e (Nat.le_refl e), Bool.xor_false]
  ac_rfl

theorem rthread_xor_high {e hf : Nat} (h1 : ∀ k < e, hf.testBit k = false) (f : Nat) (rest : List Nat)
    (h : Nat → Nat) (h2 : ∀ j, ∀ k ≤ e, (h j).testBit k = false) :
    rthread (2 ^ e) (f ^^^ hf) (rest.mapIdx fun j y => y ^^^ h j) =
      ((rthread (2 ^ e) f rest).1 ^^^ hf, (rthread (2 ^ e) f rest).2.mapIdx fun j y => y ^^^ h j) := by
  induction rest generalizing h with
  | nil => rfl
  | cons c rest ih =>
    rw [List.mapIdx_cons, rthread, ih _ (fun j => h2 (j + 1)), exch_xor_high h1 (h2 0), rthread, List.mapIdx_cons]

theorem invPass_xor_high {e : Nat} (h : Nat → Nat) (hh : ∀ j, ∀ k ≤ e, (h j).testBit k = false) (Y : List Nat) :
    invPass (2 ^ e) (Y.mapIdx fun j y => y ^^^ h j) = (invPass (2 ^ e) Y).mapIdx fun j y => y ^^^ h j := by
  cases Y with
  | nil => rfl
  | cons y0 rest =>
    rw [List.mapIdx_cons, invPass_cons, invPass_cons,
      rthread_xor_high (fun k hk => hh 0 k (Nat.le_of_lt hk)) _ _ _ (fun j => hh (j + 1)), List.mapIdx_cons,
      head0_xor_high (hh 0)]

/-- mask 1 has no bits below it: the pass does nothing -/
theorem invPass_one (t : List Nat) : invPass (2 ^ 0) t = t := by
  have hr : ∀ f rest, rthread (2 ^ 0) f rest = (f, rest) := by
    intro f rest
    induction rest with
    | nil => rfl
    | cons c rest ih => rw [rthread, ih]; simp [exch]
  cases t with
  | nil => rfl
  | cons t0 rest => rw [invPass_cons, hr]; simp [head0]

theorem transposeToAxes_succ (b : Nat) (t : List Nat) :
    transposeToAxes (b + 1) t = invPass (2 ^ b) (transposeToAxes b t) := by
  cases b with
  | zero => rw [invPass_one]; rfl
  | succ b =>
    unfold transposeToAxes
    rw [Nat.add_sub_cancel, Nat.add_sub_cancel, List.range_succ, List.foldl_append]
    rfl

/-- the passes of `transposeToAxes b` have masks below `2^b`: bits from `b` on pass through -/
theorem transposeToAxes_xor_high {b : Nat} (h : Nat → Nat) (hh : ∀ j, ∀ k < b, (h j).testBit k = false)
    (Y : List Nat) :
    transposeToAxes b (Y.mapIdx fun j y => y ^^^ h j) = (transposeToAxes b Y).mapIdx fun j y => y ^^^ h j := by
  induction b with
  | zero => rfl
  | succ b ih =>
    rw [transposeToAxes_succ, transposeToAxes_succ, ih (fun j k hk => hh j k (Nat.lt_succ_of_lt hk)),
      invPass_xor_high h (fun j k hk => hh j k (Nat.lt_succ_of_le hk))]

/-! ### flipping the bit below the top of coordinate 0 complements coordinate 0 -/

def xor0 (u : Nat) : List Nat → List Nat
  | [] => []
  | x :: X => (x ^^^ u) :: X

theorem xor0_zero (Y : List Nat) : xor0 0 Y = Y := by
  cases Y <;> simp [xor0]

theorem mapIdx_snd {α : Type} (l : List α) : l.mapIdx (fun _ y => y) = l :=
  List.mapIdx_eq_iff.2 fun i => by simp

theorem xor0_eq_mapIdx (u : Nat) (Y : List Nat) :
    xor0 u Y = Y.mapIdx fun j y => y ^^^ (if j = 0 then u else 0) := by
  cases Y <;> simp [xor0, mapIdx_snd]

/-- bit `e` of the first coordinate decides whether the pass complements its lower bits -/
theorem head0_flip (e f : Nat) : head0 (2 ^ e) (f ^^^ 2 ^ e) = head0 (2 ^ e) f ^^^ fill (e + 1) true := by
  rw [head0_eq, head0_eq, Nat.testBit_xor, Nat.testBit_two_pow_self, Bool.xor_true, fill_not, fill_succ,
    Bool.toNat_true, Nat.mul_one]
  ac_rfl

theorem invPass_xor0_mask (e : Nat) (Y : List Nat) :
    invPass (2 ^ e) (xor0 (2 ^ e) Y) = xor0 (fill (e + 1) true) (invPass (2 ^ e) Y) := by
  cases Y with
  | nil => rfl
  | cons y0 rest =>
    -- bit `e` of the running first coordinate is not read before the end of the pass
    have := rthread_xor_high (e := e) (hf := 2 ^ e) (fun k hk => by simp [Nat.ne_of_gt hk])
      y0 rest (fun _ => 0) (fun _ _ _ => Nat.zero_testBit _)
    simp only [Nat.xor_zero, mapIdx_snd] at this
    rw [xor0, invPass_cons, invPass_cons, this, head0_flip, xor0]

/-- `(2^b * r) >>> 1` is the form in which the Gray step delivers the bit (`grayDecode_combine`): `2^(b-1)` if
`r` is set and `b ≥ 1`, nothing at depth 0.  Passes below `2^(b-1)` let it through, the last one reads it -/
theorem transposeToAxes_flip (b : Nat) (r : Bool) (Y : List Nat) :
    transposeToAxes b (xor0 ((2 ^ b * r.toNat) >>> 1) Y) = xor0 (fill b r) (transposeToAxes b Y) := by
  cases r with
  | false => simp [fill, xor0_zero]
  | true =>
    cases b with
    | zero => simp [fill, xor0_zero]
    | succ b =>
      have h2 : (2 ^ (b + 1) * true.toNat) >>> 1 = 2 ^ b := by simp [Nat.pow_succ, Nat.shiftRight_eq_div_pow]
      have h3 := transposeToAxes_xor_high (b := b) (fun j => if j = 0 then 2 ^ b else 0)
        (fun j k hk => by split <;> simp [Nat.ne_of_gt hk]) Y
      rw [← xor0_eq_mapIdx, ← xor0_eq_mapIdx] at h3
      rw [h2, transposeToAxes_succ, transposeToAxes_succ, h3, invPass_xor0_mask]

/-! ### the top digit of the index: one bit plane on top of the curve one level down -/

/-- xor bit `β j` into position `b` of coordinate `j`: on coordinates below `2^b`, a bit plane put on top -/
def combine (b : Nat) (β : Nat → Bool) (Y : List Nat) : List Nat :=
  Y.mapIdx fun j y => y ^^^ 2 ^ b * (β j).toNat

theorem combine_cons (b : Nat) (β : Nat → Bool) (y : Nat) (Y : List Nat) :
    combine b β (y :: Y) = (y ^^^ 2 ^ b * (β 0).toNat) :: combine b (fun j => β (j + 1)) Y :=
  List.mapIdx_cons

/-- the bits of the digit `w`, most significant in coordinate 0 -/
def topBits (D w j : Nat) : Bool := w.testBit (D - 1 - j)

theorem deinterleave_succ (D b i : Nat) :
    deinterleave D (b + 1) i = combine b (topBits D (i / 2 ^ (D * b))) (deinterleave D b (i % 2 ^ (D * b))) := by
  refine List.ext_getElem (by simp [combine, length_deinterleave]) fun j h1 h2 => Nat.eq_of_testBit_eq fun p => ?_
  have hj : j < D := length_deinterleave D (b + 1) i ▸ h1
  simp only [combine, topBits, List.getElem_mapIdx]
  rw [Nat.testBit_xor, testBit_top, getElem_deinterleave_testBit, getElem_deinterleave_testBit, Nat.testBit_mod_two_pow,
    Nat.testBit_div_two_pow]
  by_cases hp : p < b
  · have : p * D + (D - 1 - j) < D * b := by
      have := Nat.mul_le_mul_left D (Nat.succ_le_of_lt hp)
      rw [Nat.mul_succ, Nat.mul_comm] at this
      omega
    simp [hp, this, Nat.ne_of_lt hp, Nat.lt_succ_of_lt hp]
  · by_cases hb : p = b
    · subst hb
      simp [Nat.mul_comm, Nat.add_comm]
    · simp [hp, hb, show ¬ p < b + 1 by omega]

theorem top_xor_top (b : Nat) (s t : Bool) : 2 ^ b * s.toNat ^^^ 2 ^ b * t.toNat = 2 ^ b * (s ^^ t).toNat := by
  cases s <;> cases t <;> simp

theorem zipWith_xor_combine (b : Nat) (τ : Nat → Bool) (ta : Bool) (a : Nat) (X : List Nat) :
    List.zipWith (· ^^^ ·) (combine b τ X) ((a ^^^ 2 ^ b * ta.toNat) :: combine b τ X) =
      combine b (fun j => τ j ^^ (if j = 0 then ta else τ (j - 1))) (List.zipWith (· ^^^ ·) X (a :: X)) := by
  induction X generalizing τ ta a with
  | nil => rfl
  | cons x X ih =>
    rw [combine_cons, List.zipWith_cons_cons, ih, List.zipWith_cons_cons, combine_cons]
    congr 1
    · show _ = (x ^^^ a) ^^^ 2 ^ b * (τ 0 ^^ ta).toNat
      rw [← top_xor_top]
      ac_rfl
    · congr 1
      funext j
      cases j <;> rfl

/-- the Gray step under a bit plane `τ`: coordinate `j` of the plane gets `τ j ^^ τ (j-1)`, the low
parts are decoded on their own, and the last bit of the plane enters coordinate 0 one position lower -/
theorem grayDecode_combine (b : Nat) (τ : Nat → Bool) (X : List Nat) :
    grayDecode (combine b τ X) =
      combine b (fun j => τ j ^^ (if j = 0 then false else τ (j - 1)))
        (xor0 ((2 ^ b * (τ (X.length - 1)).toNat) >>> 1) (grayDecode X)) := by
  have hx : ∀ u a, List.zipWith (· ^^^ ·) X ((a ^^^ u) :: X) = xor0 u (List.zipWith (· ^^^ ·) X (a :: X)) := by
    intro u a
    cases X with
    | nil => rfl
    | cons x X => rw [List.zipWith_cons_cons, List.zipWith_cons_cons, xor0, Nat.xor_assoc]
  have hlast : X ≠ [] → (combine b τ X).getLastD 0 >>> 1 =
      (X.getLastD 0 >>> 1 ^^^ (2 ^ b * (τ (X.length - 1)).toNat) >>> 1) ^^^ 2 ^ b * false.toNat := by
    intro hne
    rw [List.getLastD_eq_getLast?, List.getLastD_eq_getLast?, combine, List.getLast?_mapIdx,
      List.getLast?_eq_some_getLast hne]
    simp [Nat.shiftRight_xor_distrib]
  by_cases hne : X = []
  · subst hne; rfl
  rw [grayDecode, hlast hne, zipWith_xor_combine, hx, grayDecode]

theorem transposeToAxes_combine (b : Nat) (β : Nat → Bool) (Y : List Nat) :
    transposeToAxes b (combine b β Y) = combine b β (transposeToAxes b Y) :=
  transposeToAxes_xor_high (fun j => 2 ^ b * (β j).toNat)
    (fun j k hk => by rw [Nat.testBit_two_pow_mul, decide_eq_false (Nat.not_le_of_lt hk), Bool.false_and]) Y

/-- the Gray code of the digit `w` across the coordinates: the bit plane of block `w` -/
def grayBits (D w j : Nat) : Bool := topBits D w j ^^ (if j = 0 then false else topBits D w (j - 1))

/-- self-similarity: `w = i / 2^(D*b)` is the block, `i % 2^(D*b)` the index inside it -/
theorem hilbertPoint_succ (D b i : Nat) :
    hilbertPoint D (b + 1) i =
      invPass (2 ^ b) (combine b (grayBits D (i / 2 ^ (D * b)))
        (xor0 (fill b ((i / 2 ^ (D * b)).testBit 0)) (hilbertPoint D b (i % 2 ^ (D * b))))) := by
  unfold hilbertPoint
  rw [transposeToAxes_succ, deinterleave_succ, grayDecode_combine, transposeToAxes_combine, length_deinterleave,
    transposeToAxes_flip]
  -- the last bit of the digit is its parity
  show invPass _ (combine b (grayBits D _) (xor0 (fill b (Nat.testBit _ (D - 1 - (D - 1)))) _)) = _
  rw [Nat.sub_self]

/-! ### the last pass acts on the low parts alone -/

/-- complement the bits below `b` if `t` -/
def flipLow (b : Nat) (t : Bool) (x : Nat) : Nat := x ^^^ fill b t

/-- what the pass with mask `2^b` does to the parts below `2^b`, given the bit plane `β` at position `b`:
the running first value is complemented (`β j` set) or exchanged with coordinate `j` (`β j` clear).
Generic in the values and in the conditional complement `cc` (`flipLow b` on numbers), so that it can also
run on a single bit plane (`Bool.xor` on `Bool`) -/
def lowThread {α : Type} (cc : Bool → α → α) : (Nat → Bool) → α → List α → α × List α
  | _, f, [] => (f, [])
  | β, f, c :: X =>
    let t := lowThread cc (fun j => β (j + 1)) f X
    if β 0 then (cc true t.1, c :: t.2) else (c, t.1 :: t.2)

/-- the map of a block on low parts: complement coordinate 0 if `r`, then the pass -/
def lowPass {α : Type} (cc : Bool → α → α) (β : Nat → Bool) (r : Bool) : List α → List α
  | [] => []
  | x :: X =>
    let t := lowThread cc (fun j => β (j + 1)) (cc r x) X
    cc (β 0) t.1 :: t.2

theorem flipLow_lt {b x : Nat} (t : Bool) (h : x < 2 ^ b) : flipLow b t x < 2 ^ b :=
  Nat.xor_lt_two_pow h (fill_lt b t)

theorem lowThread_lt {b : Nat} (β : Nat → Bool) {f : Nat} {X : List Nat} (hf : f < 2 ^ b)
    (hX : ∀ x ∈ X, x < 2 ^ b) :
    (lowThread (flipLow b) β f X).1 < 2 ^ b ∧ ∀ x ∈ (lowThread (flipLow b) β f X).2, x < 2 ^ b := by
  induction X generalizing β with
  | nil => exact ⟨hf, fun x hx => by cases hx⟩
  | cons c X ih =>
    obtain ⟨hc, hX'⟩ := List.forall_mem_cons.1 hX
    obtain ⟨h1, h2⟩ := ih (fun j => β (j + 1)) hX'
    unfold lowThread
    split
    · exact ⟨flipLow_lt true h1, List.forall_mem_cons.2 ⟨hc, h2⟩⟩
    · exact ⟨hc, List.forall_mem_cons.2 ⟨h1, h2⟩⟩

theorem lowPass_lt {b : Nat} (β : Nat → Bool) (r : Bool) {X : List Nat} (hX : ∀ x ∈ X, x < 2 ^ b) :
    ∀ x ∈ lowPass (flipLow b) β r X, x < 2 ^ b := by
  cases X with
  | nil => exact hX
  | cons x X =>
    obtain ⟨hx, hX'⟩ := List.forall_mem_cons.1 hX
    obtain ⟨h1, h2⟩ := lowThread_lt (fun j => β (j + 1)) (flipLow_lt r hx) hX'
    exact List.forall_mem_cons.2 ⟨flipLow_lt (β 0) h1, h2⟩

theorem exch_top {b f c : Nat} (hf : f < 2 ^ b) (hc : c < 2 ^ b) (s t : Bool) :
    exch (2 ^ b) (f ^^^ 2 ^ b * s.toNat) (c ^^^ 2 ^ b * t.toNat) =
      ((if t then flipLow b true f else c) ^^^ 2 ^ b * s.toNat, (if t then c else f) ^^^ 2 ^ b * t.toNat) := by
  have hcb : (c ^^^ 2 ^ b * t.toNat).testBit b = t := by
    rw [Nat.testBit_xor, testBit_top, testBit_of_lt hc (Nat.le_refl b)]; simp
  refine Prod.ext (Nat.eq_of_testBit_eq fun k => ?_) (Nat.eq_of_testBit_eq fun k => ?_)
  · rw [exch_fst_testBit, hcb]
    simp only [flipLow, Nat.testBit_xor, testBit_top]
    by_cases hk : k < b
    · cases t <;> simp [hk, Nat.ne_of_lt hk, testBit_fill]
    · cases t <;>
        simp [hk, testBit_fill, testBit_of_lt hf (Nat.le_of_not_lt hk), testBit_of_lt hc (Nat.le_of_not_lt hk)]
  · rw [exch_snd_testBit, hcb]
    simp only [Nat.testBit_xor, testBit_top]
    by_cases hk : k < b
    · cases t <;> simp [hk, Nat.ne_of_lt hk]
    · cases t <;> simp [hk, testBit_of_lt hf (Nat.le_of_not_lt hk), testBit_of_lt hc (Nat.le_of_not_lt hk)]

theorem rthread_combine {b : Nat} (β : Nat → Bool) (s : Bool) {f : Nat} {X : List Nat} (hf : f < 2 ^ b)
    (hX : ∀ x ∈ X, x < 2 ^ b) :
    rthread (2 ^ b) (f ^^^ 2 ^ b * s.toNat) (combine b β X) =
      ((lowThread (flipLow b) β f X).1 ^^^ 2 ^ b * s.toNat,
        combine b β (lowThread (flipLow b) β f X).2) := by
  induction X generalizing β with
  | nil => rfl
  | cons c X ih =>
    obtain ⟨hc, hX'⟩ := List.forall_mem_cons.1 hX
    rw [combine_cons, rthread, ih _ hX', exch_top (lowThread_lt _ hf hX').1 hc, lowThread]
    cases h : β 0 <;> simp [combine_cons, h]

theorem invPass_combine {b : Nat} (β : Nat → Bool) (r : Bool) {X : List Nat} (hX : ∀ x ∈ X, x < 2 ^ b) :
    invPass (2 ^ b) (combine b β (xor0 (fill b r) X)) = combine b β (lowPass (flipLow b) β r X) := by
  cases X with
  | nil => rfl
  | cons x X =>
    obtain ⟨hx, hX'⟩ := List.forall_mem_cons.1 hX
    have hx' := flipLow_lt r hx
    have h1 := (lowThread_lt (fun j => β (j + 1)) hx' hX').1
    rw [xor0, combine_cons, invPass_cons, show x ^^^ fill b r = flipLow b r x from rfl,
      rthread_combine _ _ hx' hX', lowPass, combine_cons, head0_eq, Nat.testBit_xor, testBit_top,
      Nat.testBit_lt_two_pow h1]
    -- the plane bit of coordinate 0 decides the final complement
    simp only [decide_true, Bool.true_and, Bool.false_xor, flipLow]
    congr 1
    ac_rfl

/-! ### a block map keeps L1 distances -/

theorem xor_pred_eq_sub {b x : Nat} (h : x < 2 ^ b) : x ^^^ (2 ^ b - 1) = 2 ^ b - 1 - x := by
  rw [Nat.sub_sub, Nat.add_comm]
  apply Nat.eq_of_testBit_eq
  intro k
  rw [Nat.testBit_xor, Nat.testBit_two_pow_sub_one, Nat.testBit_two_pow_sub_succ h]
  by_cases hk : k < b
  · simp [hk]
  · simp [hk, testBit_of_lt h (Nat.le_of_not_lt hk)]

theorem absDiff_flipLow {b x y : Nat} (t : Bool) (hx : x < 2 ^ b) (hy : y < 2 ^ b) :
    absDiff (flipLow b t x) (flipLow b t y) = absDiff x y := by
  cases t
  · show absDiff (x ^^^ 0) (y ^^^ 0) = _
    rw [Nat.xor_zero, Nat.xor_zero]
  · show absDiff (x ^^^ (2 ^ b - 1)) (y ^^^ (2 ^ b - 1)) = _
    rw [xor_pred_eq_sub hx, xor_pred_eq_sub hy]
    exact absDiff_sub_left (Nat.le_sub_one_of_lt hx) (Nat.le_sub_one_of_lt hy)

theorem l1_combine {b : Nat} (β : Nat → Bool) {U V : List Nat} (hU : ∀ x ∈ U, x < 2 ^ b) (hV : ∀ x ∈ V, x < 2 ^ b) :
    l1 (combine b β U) (combine b β V) = l1 U V := by
  induction U generalizing β V with
  | nil => cases V <;> rfl
  | cons u U ih =>
    cases V with
    | nil => rw [combine_cons]; rfl
    | cons v V =>
      obtain ⟨hu, hU'⟩ := List.forall_mem_cons.1 hU
      obtain ⟨hv, hV'⟩ := List.forall_mem_cons.1 hV
      rw [combine_cons, combine_cons, l1_cons, l1_cons, ih _ hU' hV', xor_top_eq_add hu, xor_top_eq_add hv,
        absDiff_add_left]

/-- the two threads meet the same bit plane: complementing both running values or exchanging both with
their coordinates keeps the sum of the coordinate distances -/
theorem l1_lowThread {b : Nat} (β : Nat → Bool) {fx fy : Nat} {X Y : List Nat} (hl : X.length = Y.length)
    (hfx : fx < 2 ^ b) (hfy : fy < 2 ^ b) (hX : ∀ x ∈ X, x < 2 ^ b) (hY : ∀ x ∈ Y, x < 2 ^ b) :
    l1 ((lowThread (flipLow b) β fx X).1 :: (lowThread (flipLow b) β fx X).2)
      ((lowThread (flipLow b) β fy Y).1 :: (lowThread (flipLow b) β fy Y).2) =
      l1 (fx :: X) (fy :: Y) := by
  induction X generalizing β Y with
  | nil => match Y, hl with
    | [], _ => rfl
  | cons x X ih =>
    match Y, hl with
    | y :: Y, hl =>
      have hX' := (List.forall_mem_cons.1 hX).2
      have hY' := (List.forall_mem_cons.1 hY).2
      have := ih (fun j => β (j + 1)) (by simpa using hl) hX' hY'
      rw [l1_cons, l1_cons] at this
      unfold lowThread
      cases β 0
      · simp only [Bool.false_eq_true, if_false, l1_cons]
        omega
      · simp only [if_true, l1_cons, absDiff_flipLow true (lowThread_lt _ hfx hX').1 (lowThread_lt _ hfy hY').1]
        omega

theorem l1_lowPass {b : Nat} (β : Nat → Bool) (r : Bool) {X Y : List Nat} (hl : X.length = Y.length)
    (hX : ∀ x ∈ X, x < 2 ^ b) (hY : ∀ x ∈ Y, x < 2 ^ b) :
    l1 (lowPass (flipLow b) β r X) (lowPass (flipLow b) β r Y) = l1 X Y := by
  match X, Y, hl with
  | [], [], _ => rfl
  | x :: X, y :: Y, hl =>
    obtain ⟨hx, hX'⟩ := List.forall_mem_cons.1 hX
    obtain ⟨hy, hY'⟩ := List.forall_mem_cons.1 hY
    have hx' := flipLow_lt r hx
    have hy' := flipLow_lt r hy
    have := l1_lowThread (fun j => β (j + 1)) (by simpa using hl) hx' hy' hX' hY'
    rw [l1_cons, l1_cons, absDiff_flipLow r hx hy] at this
    unfold lowPass
    rw [l1_cons, l1_cons, absDiff_flipLow (β 0) (lowThread_lt _ hx' hX').1 (lowThread_lt _ hy' hY').1]
    exact this

theorem l1_block {b : Nat} (β : Nat → Bool) (r : Bool) {p q : List Nat} (hl : p.length = q.length)
    (hp : ∀ x ∈ p, x < 2 ^ b) (hq : ∀ x ∈ q, x < 2 ^ b) :
    l1 (invPass (2 ^ b) (combine b β (xor0 (fill b r) p))) (invPass (2 ^ b) (combine b β (xor0 (fill b r) q))) =
      l1 p q := by
  rw [invPass_combine β r hp, invPass_combine β r hq, l1_combine β (lowPass_lt β r hp) (lowPass_lt β r hq),
    l1_lowPass β r hl hp hq]

/-! ### corners: one bit plane decides for every depth -/

theorem lowThread_map {α γ : Type} (S : α → γ) {cc : Bool → α → α} {cc' : Bool → γ → γ}
    (hS : ∀ t x, S (cc t x) = cc' t (S x)) (β : Nat → Bool) (f : α) (X : List α) :
    lowThread cc' β (S f) (X.map S) = (S (lowThread cc β f X).1, (lowThread cc β f X).2.map S) := by
  induction X generalizing β with
  | nil => rfl
  | cons c X ih =>
    rw [List.map_cons, lowThread, ih, lowThread]
    cases β 0 <;> simp [hS]

/-- the low pass is the same operation whatever the values are: it commutes with any map that
commutes with the conditional complement -/
theorem lowPass_map {α γ : Type} (S : α → γ) {cc : Bool → α → α} {cc' : Bool → γ → γ}
    (hS : ∀ t x, S (cc t x) = cc' t (S x)) (β : Nat → Bool) (r : Bool) (X : List α) :
    lowPass cc' β r (X.map S) = (lowPass cc β r X).map S := by
  cases X with
  | nil => rfl
  | cons x X => rw [List.map_cons, lowPass, ← hS, lowThread_map S hS, lowPass, List.map_cons, hS]

/-- corner patterns, one Boolean per coordinate: `fill b` turns them into corner cells of depth `b` -/
def entryP (D : Nat) : List Bool := List.replicate D false
def exitP (D : Nat) : List Bool := (List.range D).map (· == 0)

/-- pair each entry with its plane bit -/
def tag (β : Nat → Bool) : List Bool → List (Bool × Bool)
  | [] => []
  | q :: Q => (β 0, q) :: tag (fun j => β (j + 1)) Q

/-- block `w` on one bit plane: for each coordinate the bit of the block's plane and, after the pass,
the sign of the low part -/
def blockPlane (D w : Nat) (P : List Bool) : List (Bool × Bool) :=
  tag (grayBits D w) (lowPass Bool.xor (grayBits D w) (w.testBit 0) P)

/-- the coordinate with top bit `tq.1` and all lower bits `tq.2` -/
def spread (b : Nat) (tq : Bool × Bool) : Nat := fill b tq.2 ^^^ 2 ^ b * tq.1.toNat

theorem combine_fill (b : Nat) (β : Nat → Bool) (Q : List Bool) :
    combine b β (Q.map (fill b)) = (tag β Q).map (spread b) := by
  induction Q generalizing β with
  | nil => rfl
  | cons q Q ih => rw [List.map_cons, combine_cons, ih, tag, List.map_cons, spread]

theorem block_corner (D b w : Nat) (P : List Bool) :
    invPass (2 ^ b) (combine b (grayBits D w) (xor0 (fill b (w.testBit 0)) (P.map (fill b)))) =
      (blockPlane D w P).map (spread b) := by
  have hP : ∀ x ∈ P.map (fill b), x < 2 ^ b := by
    intro x hx
    obtain ⟨p, _, rfl⟩ := List.mem_map.1 hx
    exact fill_lt b p
  have hS : ∀ t p, fill b (Bool.xor t p) = flipLow b t (fill b p) := by
    intro t p; cases t <;> cases p <;> simp [flipLow, fill]
  rw [invPass_combine _ _ hP, lowPass_map (fill b) hS, combine_fill, blockPlane]

/-- two one-plane cells that agree in all coordinates but one, where (top bit, low bits) is `(t, !t)` in one
and `(!t, t)` in the other: spread over any number of bits these are `2^b - 1` and `2^b` -/
def unitStep : List (Bool × Bool) → List (Bool × Bool) → Bool
  | u :: U, v :: V => (u == v && unitStep U V) || (u.2 == !u.1 && v == (u.2, u.1) && U == V)
  | _, _ => false

theorem l1_of_unitStep (b : Nat) {U V : List (Bool × Bool)} (h : unitStep U V = true) :
    l1 (U.map (spread b)) (V.map (spread b)) = 1 := by
  induction U generalizing V with
  | nil => simp [unitStep] at h
  | cons u U ih =>
    cases V with
    | nil => simp [unitStep] at h
    | cons v V =>
      rw [List.map_cons, List.map_cons, l1_cons]
      simp only [unitStep, Bool.or_eq_true, Bool.and_eq_true, beq_iff_eq] at h
      rcases h with ⟨rfl, h⟩ | ⟨⟨h1, rfl⟩, rfl⟩
      · rw [ih h, absDiff_eq_zero.2 rfl]
      · obtain ⟨t, u2⟩ := u
        obtain rfl : u2 = !t := h1
        have := Nat.two_pow_pos b
        have h01 : spread b (false, true) = 2 ^ b - 1 := by simp [spread, fill]
        have h10 : spread b (true, false) = 2 ^ b := by simp [spread, fill]
        cases t
        · rw [Bool.not_false, h01, h10, l1_self, absDiff_eq_one.2 (Or.inl (by omega))]
        · rw [Bool.not_true, h10, h01, l1_self, absDiff_eq_one.2 (Or.inr (by omega))]

/-- the finite condition on dimension `D`, about a single bit plane: the first block keeps the entry
corner (all coordinates 0), the last block keeps the exit corner (coordinate 0 full, the others 0), and the
exit corner under block `w` is one unit step from the entry corner under block `w + 1` -/
def cornerOk (D : Nat) : Bool :=
  blockPlane D 0 (entryP D) == (entryP D).map (fun p => (p, p)) &&
  blockPlane D (2 ^ D - 1) (exitP D) == (exitP D).map (fun p => (p, p)) &&
  (List.range (2 ^ D - 1)).all fun w => unitStep (blockPlane D w (exitP D)) (blockPlane D (w + 1) (entryP D))

/-! ### the induction on the depth -/

theorem pred_mul_div_mod {N M : Nat} (hN : 0 < N) (hM : 0 < M) :
    (N * M - 1) / N = M - 1 ∧ (N * M - 1) % N = N - 1 := by
  refine (Nat.div_mod_unique hN).2 ⟨?_, Nat.sub_lt hN Nat.one_pos⟩
  obtain ⟨m, rfl⟩ := Nat.exists_eq_succ_of_ne_zero (Nat.ne_of_gt hM)
  rw [Nat.succ_sub_one, Nat.mul_succ, Nat.add_comm (N * m), Nat.sub_add_comm hN]

theorem succ_div_mod_of_lt {N i : Nat} (h : i % N + 1 < N) : (i + 1) / N = i / N ∧ (i + 1) % N = i % N + 1 := by
  refine (Nat.div_mod_unique (Nat.zero_lt_of_lt h)).2 ⟨?_, h⟩
  have := Nat.div_add_mod i N
  omega

theorem succ_div_mod_of_eq {N i : Nat} (hN : 0 < N) (h : i % N + 1 = N) :
    (i + 1) / N = i / N + 1 ∧ (i + 1) % N = 0 := by
  refine (Nat.div_mod_unique hN).2 ⟨?_, hN⟩
  have := Nat.div_add_mod i N
  rw [Nat.mul_succ]
  omega

/-- the curve enters every grid at the origin and leaves it at the far end of axis 0 -/
theorem corners {D : Nat} (h : cornerOk D = true) (b : Nat) :
    hilbertPoint D b 0 = (entryP D).map (fill b) ∧ hilbertPoint D b (2 ^ (D * b) - 1) = (exitP D).map (fill b) := by
  induction b with
  | zero =>
    -- depth 0: the grid is a single cell
    have h0 : ∀ P : List Bool, P.length = D → hilbertPoint D 0 0 = P.map (fill 0) := by
      intro P hP
      obtain ⟨hl, hc⟩ := (hilbertIndex_hilbertPoint D 0 (i := 0) (Nat.two_pow_pos _)).2
      refine List.ext_getElem (by simp [hl, hP]) fun j h1 h2 => ?_
      have := hc _ (List.getElem_mem h1)
      simp only [List.getElem_map, fill, Nat.pow_zero, Nat.sub_self, ite_self]
      omega
    exact ⟨h0 _ (by simp [entryP]), h0 _ (by simp [exitP])⟩
  | succ b ih =>
    simp only [cornerOk, Bool.and_eq_true, beq_iff_eq] at h
    have hd : ∀ P : List Bool, (P.map fun p => (p, p)).map (spread b) = P.map (fill (b + 1)) := fun P => by
      rw [List.map_map]
      exact List.map_congr_left fun p _ => (fill_succ b p).symm
    obtain ⟨e1, e2⟩ := pred_mul_div_mod (Nat.two_pow_pos (D * b)) (Nat.two_pow_pos D)
    constructor
    · rw [hilbertPoint_succ, Nat.zero_div, Nat.zero_mod, ih.1, block_corner, h.1.1, hd]
    · rw [hilbertPoint_succ, Nat.mul_succ, Nat.pow_add, e1, e2, ih.2, block_corner, h.1.2, hd]

theorem adjacent_of_cornerOk {D : Nat} (h : cornerOk D = true) :
    ∀ b i, i + 1 < 2 ^ (D * b) → l1 (hilbertPoint D b i) (hilbertPoint D b (i + 1)) = 1 := by
  intro b
  induction b with
  | zero => intro i hi; simp at hi
  | succ b ih =>
    intro i hi
    have hN := Nat.two_pow_pos (D * b)
    have hr := Nat.mod_lt i hN
    rw [hilbertPoint_succ D b i, hilbertPoint_succ D b (i + 1)]
    by_cases hlast : i % 2 ^ (D * b) + 1 < 2 ^ (D * b)
    · obtain ⟨e1, e2⟩ := succ_div_mod_of_lt hlast
      obtain ⟨_, g1⟩ := hilbertIndex_hilbertPoint D b hr
      obtain ⟨_, g2⟩ := hilbertIndex_hilbertPoint D b hlast
      rw [e1, e2, l1_block _ _ (g1.1.trans g2.1.symm) g1.2 g2.2]
      exact ih _ hlast
    · have hlast' : i % 2 ^ (D * b) + 1 = 2 ^ (D * b) := by omega
      obtain ⟨e1, e2⟩ := succ_div_mod_of_eq hN hlast'
      have hw : (i + 1) / 2 ^ (D * b) < 2 ^ D := Nat.div_lt_of_lt_mul (by rwa [Nat.mul_succ, Nat.pow_add] at hi)
      rw [e1, e2, show i % 2 ^ (D * b) = 2 ^ (D * b) - 1 by omega, (corners h b).1, (corners h b).2,
        block_corner, block_corner]
      simp only [cornerOk, Bool.and_eq_true, List.all_eq_true, List.mem_range] at h
      exact l1_of_unitStep b (h.2 _ (by omega))

theorem cornerOk_le_five : ∀ D ≤ 5, cornerOk D = true := by decide +kernel

end DM.HilbertAux
