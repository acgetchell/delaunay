/-
Lemmas/DetAux.lean — helper lemmas for the bridge between the list-based Laplace determinant
`DM.detN` / `DM.det` (Model/Det.lean) and Mathlib's `Matrix.det`.

Contents: `sumRange` vs `Finset.sum`, the parity sign, `List.ofFn` under `eraseIdx`, `Fin.snoc` and
`zipWith`, the rows `rowsOf M` of a matrix, the row-swap operation `swapAt` on lists, and induction
over a permutation by adjacent transpositions (`perm_prefix_induction`).
-/
import Mathlib.LinearAlgebra.Matrix.Determinant.Basic
import DelaunayModel.Model.Det
import DelaunayModel.Lemmas.ListAux

namespace DM

/-! ### `sumRange` and the parity sign -/

theorem sumRange_eq_sum_fin (f : Nat → Int) (k : Nat) :
    sumRange f k = ∑ i : Fin k, f i := by
  induction k with
  | zero => simp [sumRange]
  | succ k ih => rw [sumRange, ih, Fin.sum_univ_castSucc]; rfl

theorem paritySign_eq (j : Nat) : (if j % 2 == 0 then (1 : Int) else -1) = (-1) ^ j := by
  simp only [neg_one_pow_eq_ite, Nat.even_iff, beq_iff_eq]

/-! ### `List.ofFn` -/

theorem getD_ofFn {α : Type _} {n : Nat} (f : Fin n → α) (i : Fin n) (d : α) :
    (List.ofFn f).getD i d = f i := by
  rw [List.getD_eq_getElem?_getD, List.getElem?_ofFn, dif_pos i.isLt]
  rfl

theorem eraseIdx_ofFn {α : Type _} {n : Nat} (f : Fin (n + 1) → α) (j : Fin (n + 1)) :
    (List.ofFn f).eraseIdx j = List.ofFn (fun k : Fin n => f (j.succAbove k)) := by
  apply List.ext_getElem
  · rw [List.length_eraseIdx_of_lt (by rw [List.length_ofFn]; exact j.isLt), List.length_ofFn,
      List.length_ofFn]
    rfl
  · intro k h1 h2
    simp only [List.getElem_eraseIdx, List.getElem_ofFn, Fin.succAbove, Fin.lt_def,
      Fin.val_castSucc]
    split <;> rfl

theorem ofFn_snoc {α : Type _} {n : Nat} (f : Fin n → α) (a : α) :
    List.ofFn (Fin.snoc f a : Fin (n + 1) → α) = List.ofFn f ++ [a] := by
  rw [List.ofFn_succ_last]
  simp

theorem zipWith_ofFn {α β γ : Type _} {n : Nat} (g : α → β → γ) (a : Fin n → α) (b : Fin n → β) :
    List.zipWith g (List.ofFn a) (List.ofFn b) = List.ofFn fun i => g (a i) (b i) := by
  apply List.ext_getElem <;> simp

/-! ### matrices as lists of rows -/

def rowsOf {n m : Nat} (M : Matrix (Fin n) (Fin m) ℤ) : List (List Int) :=
  List.ofFn (fun i => List.ofFn (fun j => M i j))

@[simp] theorem length_rowsOf {n m : Nat} (M : Matrix (Fin n) (Fin m) ℤ) :
    (rowsOf M).length = n := by simp [rowsOf]

theorem rowsOf_succ {n m : Nat} (M : Matrix (Fin (n + 1)) (Fin m) ℤ) :
    rowsOf M = List.ofFn (fun j => M 0 j) :: rowsOf (M.submatrix Fin.succ id) := by
  simp [rowsOf, List.ofFn_succ]

theorem map_eraseIdx_rowsOf {n m : Nat} (M : Matrix (Fin n) (Fin (m + 1)) ℤ) (j : Fin (m + 1)) :
    (rowsOf M).map (fun row => row.eraseIdx j) = rowsOf (M.submatrix id j.succAbove) := by
  simp only [rowsOf, List.map_ofFn]
  congr 1
  funext i
  exact eraseIdx_ofFn (fun j => M i j) j

/-! ### swapping two entries of a list -/

/-- exchange the entries at positions `i` and `j` (identity if either is out of range) -/
def swapAt {α : Type _} (l : List α) (i j : Nat) : List α :=
  match l[i]?, l[j]? with
  | some a, some b => (l.set i b).set j a
  | _, _ => l

theorem swapAt_eq {α : Type _} (l : List α) {i j : Nat} (hi : i < l.length) (hj : j < l.length) :
    swapAt l i j = (l.set i l[j]).set j l[i] := by
  simp [swapAt, List.getElem?_eq_getElem hi, List.getElem?_eq_getElem hj]

@[simp] theorem length_swapAt {α : Type _} (l : List α) (i j : Nat) :
    (swapAt l i j).length = l.length := by
  unfold swapAt
  split <;> simp

theorem getElem?_swapAt {α : Type _} (l : List α) {i j : Nat} (hi : i < l.length)
    (hj : j < l.length) (k : Nat) : (swapAt l i j)[k]? = l[Equiv.swap i j k]? := by
  rw [swapAt_eq l hi hj, List.getElem?_set, List.getElem?_set, List.length_set]
  rcases eq_or_ne k j with rfl | hkj
  · simp [hj, hi]
  · rcases eq_or_ne k i with rfl | hki
    · simp [hkj.symm, hi, hj]
    · simp [hkj.symm, hki.symm, Equiv.swap_apply_of_ne_of_ne hki hkj]

theorem map_swapAt {α β : Type _} (f : α → β) (l : List α) (i j : Nat) :
    (swapAt l i j).map f = swapAt (l.map f) i j := by
  unfold swapAt
  rw [List.getElem?_map, List.getElem?_map]
  cases l[i]? <;> cases l[j]? <;> simp only [Option.map_none, Option.map_some, List.map_set]

theorem swapAt_cons_succ {α : Type _} (x : α) (l : List α) (i j : Nat) :
    swapAt (x :: l) (i + 1) (j + 1) = x :: swapAt l i j := by
  unfold swapAt
  rw [List.getElem?_cons_succ, List.getElem?_cons_succ]
  cases l[i]? <;> cases l[j]? <;> rfl

theorem swapAt_adjacent {α : Type _} (p : List α) (a b : α) (l : List α) :
    swapAt (p ++ a :: b :: l) p.length (p.length + 1) = p ++ b :: a :: l := by
  induction p with
  | nil => rfl
  | cons x p ih => exact (swapAt_cons_succ x _ _ _).trans (congrArg (x :: ·) ih)

/-- A permutation is made of adjacent transpositions behind a prefix: a relation that is reflexive,
transitive along permutations and holds for every such transposition holds between a list and each
of its permutations. -/
@[elab_as_elim]
theorem perm_prefix_induction {α : Type _} {R : List α → List α → Prop} (hrefl : ∀ l, R l l)
    (htrans : ∀ a b c, a.Perm b → R a b → R b c → R a c)
    (hswap : ∀ p a b l, R (p ++ a :: b :: l) (p ++ b :: a :: l))
    {l l' : List α} (hp : l.Perm l') : R l l' := by
  -- behind any prefix `p`, which is what the induction on `List.Perm` needs under `cons`
  suffices ∀ p, R (p ++ l) (p ++ l') from this []
  induction hp with
  | nil => exact fun p => hrefl _
  | cons a _ ih =>
    intro p
    have := ih (p ++ [a])
    rwa [← List.append_cons, ← List.append_cons] at this
  | swap a b l => exact fun p => hswap p b a l
  | trans h₁ _ ih₁ ih₂ => exact fun p => htrans _ _ _ (h₁.append_left p) (ih₁ p) (ih₂ p)

end DM
