/-
Lemmas/DetBridge.lean — the list-based Laplace determinant `DM.det` of Model/Det.lean *is*
Mathlib's `Matrix.det`, and what the proofs about the Delaunay predicates need of it.

Every list-level fact is obtained the same way: a well-formed list of rows IS `rowsOf M`
(`Square.exists_rowsOf`, `Simplex.exists_rowsOf`), `rowsOf` is pushed through the list operation,
`det_rowsOf` turns `DM.det` into `Matrix.det`, and a Mathlib lemma finishes.

 1. the bridge `detN_rowsOf`, `det_rowsOf`; `Square`, `matOf`, the normal form `exists_rowsOf` and the
    bridge for a square list of rows, `det_eq_matrix_det`;
 2. rows reindexed by `σ` (`det_reindex`: factor `sign σ`), swapped (`det_swap`), repeated
    (`det_eq_zero_of_not_nodup`);
 3. rows permuted: `det_perm_uniform` (one sign for all matrices made of the permuted list),
    `det_perm`, and the sign made explicit (`det_perm_sign`);
 4. the predicates of Model/Det: `Simplex`, `vadd`, the paraboloid `lift` with
    `insphereRows_eq_orientRows_lift`, `orientDet_swap`, `orientDet_perm`,
    `orientDet_eq_zero_of_not_nodup` (with the case Props/C10 uses: the apex replaced by a point of
    the facet, `orientDet_eraseIdx_append_getElem`), `k2_symmetric`.
-/
import DelaunayModel.Lemmas.DetAux

namespace DM

/-! ## 1. The bridge -/

/-- **Bridge.**  The list-based Laplace expansion along the first row (`detN`, Model/Det.lean)
computes Mathlib's determinant. -/
theorem detN_rowsOf : ∀ (n : Nat) (M : Matrix (Fin n) (Fin n) ℤ), detN n (rowsOf M) = M.det
  | 0, M => by simp [detN]
  | n + 1, M => by
    rw [rowsOf_succ]
    simp only [detN]
    rw [sumRange_eq_sum_fin, Matrix.det_succ_row_zero]
    apply Finset.sum_congr rfl
    intro j _
    rw [paritySign_eq, map_eraseIdx_rowsOf, detN_rowsOf n, getD_ofFn]
    rfl

theorem det_rowsOf {n : Nat} (M : Matrix (Fin n) (Fin n) ℤ) : det (rowsOf M) = M.det := by
  rw [det, length_rowsOf, detN_rowsOf]

def Square (n : Nat) (rows : List (List Int)) : Prop :=
  rows.length = n ∧ ∀ r ∈ rows, r.length = n

instance (n : Nat) (rows : List (List Int)) : Decidable (Square n rows) := by
  unfold Square; infer_instance

/-- the `n × m` matrix read off a list of rows (out-of-range entries are `0`) -/
def matOf (n m : Nat) (rows : List (List Int)) : Matrix (Fin n) (Fin m) ℤ :=
  Matrix.of fun i j => (rows.getD i []).getD j 0

theorem matOf_apply (n m : Nat) (rows : List (List Int)) (i : Fin n) (j : Fin m) :
    matOf n m rows i j = (rows.getD i []).getD j 0 := rfl

theorem rowsOf_matOf {n m : Nat} {rows : List (List Int)}
    (hl : rows.length = n) (hr : ∀ r ∈ rows, r.length = m) : rowsOf (matOf n m rows) = rows := by
  apply List.ext_getElem
  · simp [hl]
  · intro i h1 h2
    have hri : rows[i].length = m := hr _ (List.getElem_mem h2)
    apply List.ext_getElem
    · simp [rowsOf, hri]
    · intro j h3 h4
      simp only [rowsOf, List.getElem_ofFn, matOf_apply]
      rw [getD_lt _ h2, getD_lt _ h4]

theorem matOf_rowsOf {n m : Nat} (M : Matrix (Fin n) (Fin m) ℤ) : matOf n m (rowsOf M) = M := by
  ext i j
  rw [matOf_apply, rowsOf, getD_ofFn, getD_ofFn]

theorem exists_rowsOf {n m : Nat} {rows : List (List Int)} (hl : rows.length = n)
    (hr : ∀ r ∈ rows, r.length = m) : ∃ M : Matrix (Fin n) (Fin m) ℤ, rows = rowsOf M :=
  ⟨_, (rowsOf_matOf hl hr).symm⟩

theorem Square.exists_rowsOf {n : Nat} {rows : List (List Int)} (h : Square n rows) :
    ∃ M : Matrix (Fin n) (Fin n) ℤ, rows = rowsOf M := DM.exists_rowsOf h.1 h.2

/-- **Bridge, list form.**  For a square list of rows, `DM.det` is the Mathlib determinant of
the matrix `(i, j) ↦ rows[i][j]`. -/
theorem det_eq_matrix_det {n : Nat} {rows : List (List Int)} (h : Square n rows) :
    det rows = (matOf n n rows).det := by
  obtain ⟨M, rfl⟩ := h.exists_rowsOf
  rw [det_rowsOf, matOf_rowsOf]

theorem square_rowsOf {n : Nat} (M : Matrix (Fin n) (Fin n) ℤ) : Square n (rowsOf M) :=
  ⟨length_rowsOf M, fun r hr => by
    obtain ⟨i, rfl⟩ := (List.mem_ofFn' ..).1 hr
    exact List.length_ofFn⟩

theorem Square.perm {n : Nat} {rows rows' : List (List Int)} (h : Square n rows)
    (hp : rows.Perm rows') : Square n rows' :=
  ⟨hp.length_eq ▸ h.1, fun r hr => h.2 r (hp.mem_iff.mpr hr)⟩

/-! ## 2. Rows reindexed, swapped, repeated -/

def reindexRows {n : Nat} (σ : Fin n → Fin n) (rows : List (List Int)) : List (List Int) :=
  List.ofFn fun i => rows.getD (σ i) []

theorem reindexRows_rowsOf {n m : Nat} (σ : Fin n → Fin n) (M : Matrix (Fin n) (Fin m) ℤ) :
    reindexRows σ (rowsOf M) = rowsOf (M.submatrix σ id) := by
  simp only [reindexRows, rowsOf, getD_ofFn]
  rfl

theorem det_reindex {n : Nat} (σ : Equiv.Perm (Fin n)) {rows : List (List Int)}
    (h : Square n rows) :
    det (reindexRows σ rows) = ((Equiv.Perm.sign σ : ℤˣ) : ℤ) * det rows := by
  obtain ⟨M, rfl⟩ := h.exists_rowsOf
  rw [reindexRows_rowsOf, det_rowsOf, det_rowsOf, Matrix.det_permute, Int.cast_id]

theorem swapAt_eq_reindexRows {n : Nat} {l : List (List Int)} (hl : l.length = n) {i j : Nat}
    (hi : i < n) (hj : j < n) :
    swapAt l i j = reindexRows (Equiv.swap (⟨i, hi⟩ : Fin n) ⟨j, hj⟩) l := by
  apply List.ext_getElem
  · simp [reindexRows, hl]
  · intro k h1 h2
    simp only [reindexRows, List.getElem_ofFn]
    rw [List.getD_eq_getElem?_getD, ← Fin.val_injective.swap_apply,
      ← getElem?_swapAt l (hl ▸ hi) (hl ▸ hj) k, List.getElem?_eq_getElem h1]
    rfl

theorem det_swap {n : Nat} {rows : List (List Int)} (h : Square n rows) {i j : Nat}
    (hi : i < n) (hj : j < n) (hij : i ≠ j) : det (swapAt rows i j) = - det rows := by
  rw [swapAt_eq_reindexRows h.1 hi hj, det_reindex _ h,
    Equiv.Perm.sign_swap (fun hEq => hij (Fin.ext_iff.mp hEq))]
  simp

theorem det_eq_zero_of_not_nodup {n : Nat} {rows : List (List Int)} (h : Square n rows)
    (hd : ¬ rows.Nodup) : det rows = 0 := by
  obtain ⟨M, rfl⟩ := h.exists_rowsOf
  rw [rowsOf, List.nodup_ofFn] at hd
  simp only [Function.Injective, not_forall] at hd
  obtain ⟨i, j, hij, hne⟩ := hd
  exact (det_rowsOf M).trans (Matrix.det_zero_of_row_eq hne (List.ofFn_injective hij))

/-! ## 3. Rows permuted -/

/-- **The sign of a permutation of rows depends on the permutation only.**  For `l ~ l'` there is
one sign `ε` such that, whatever rows `f` makes of the entries and whatever fixed rows follow them,
`det (l'.map f ++ post) = ε * det (l.map f ++ post)`.  (The orientation and the in-sphere matrix of
one simplex are two such `f`; that they get the same `ε` is why the normalised in-sphere sign does
not depend on the vertex order.) -/
theorem det_perm_uniform {α : Type _} {l l' : List α} (hp : l.Perm l') :
    ∃ ε : Int, (ε = 1 ∨ ε = -1) ∧ ∀ (n : Nat) (f : α → List Int) (post : List (List Int)),
      Square n (l.map f ++ post) → det (l'.map f ++ post) = ε * det (l.map f ++ post) := by
  refine perm_prefix_induction ?_ ?_ ?_ hp
  · exact fun _ => ⟨1, .inl rfl, fun _ _ _ _ => (one_mul _).symm⟩
  · rintro a b c hab ⟨ε₁, hε₁, H₁⟩ ⟨ε₂, hε₂, H₂⟩
    have hε : ε₂ * ε₁ = 1 ∨ ε₂ * ε₁ = -1 := by
      rcases hε₁ with rfl | rfl <;> rcases hε₂ with rfl | rfl <;> decide
    refine ⟨ε₂ * ε₁, hε, fun n f post hsq => ?_⟩
    rw [H₂ n f post (hsq.perm ((hab.map f).append_right post)), H₁ n f post hsq, mul_assoc]
  · intro p a b l
    refine ⟨-1, .inr rfl, fun n f post hsq => ?_⟩
    simp only [List.map_append, List.map_cons, List.append_assoc, List.cons_append] at hsq ⊢
    have hlen : (p.map f).length + 1 < n := by
      have := hsq.1
      simp only [List.length_append, List.length_cons] at this
      omega
    rw [neg_one_mul, ← det_swap hsq (by omega) hlen (Nat.ne_of_lt (Nat.lt_succ_self _)),
      swapAt_adjacent]

theorem det_perm {n : Nat} {rows rows' : List (List Int)} (h : Square n rows)
    (hp : rows.Perm rows') : det rows' = det rows ∨ det rows' = - det rows := by
  obtain ⟨ε, hε, H⟩ := det_perm_uniform hp
  have := H n id [] (by rwa [List.map_id, List.append_nil])
  rw [List.map_id, List.map_id, List.append_nil, List.append_nil] at this
  rcases hε with rfl | rfl
  · exact Or.inl (this.trans (one_mul _))
  · exact Or.inr (this.trans (neg_one_mul _))

/-! ### the sign made explicit -/

theorem reindexRows_one {n : Nat} {l : List (List Int)} (hl : l.length = n) :
    reindexRows (1 : Equiv.Perm (Fin n)) l = l := by
  apply List.ext_getElem
  · simp [reindexRows, hl]
  · intro k h1 h2
    simp only [reindexRows, List.getElem_ofFn, Equiv.Perm.coe_one, id]
    exact getD_lt _ h2

theorem reindexRows_reindexRows {n : Nat} (σ τ : Equiv.Perm (Fin n)) (l : List (List Int)) :
    reindexRows τ (reindexRows σ l) = reindexRows (σ * τ) l := by
  unfold reindexRows
  congr 1
  funext i
  rw [getD_ofFn]
  rfl

theorem exists_reindexRows_of_perm {l l' : List (List Int)} (hp : l.Perm l') {n : Nat}
    (hl : l.length = n) : ∃ σ : Equiv.Perm (Fin n), l' = reindexRows σ l := by
  revert hl
  refine perm_prefix_induction ?_ ?_ ?_ hp
  · exact fun l hl => ⟨1, (reindexRows_one hl).symm⟩
  · intro a b c hab H₁ H₂ ha
    obtain ⟨σ, h1⟩ := H₁ ha
    obtain ⟨τ, h2⟩ := H₂ (hab.length_eq ▸ ha)
    exact ⟨σ * τ, by rw [h2, h1, reindexRows_reindexRows]⟩
  · intro p a b l hl
    have hlen : p.length + 1 < n := by
      simp only [List.length_append, List.length_cons] at hl
      omega
    refine ⟨Equiv.swap ⟨p.length, by omega⟩ ⟨p.length + 1, hlen⟩, ?_⟩
    rw [← swapAt_eq_reindexRows hl, swapAt_adjacent]

/-- **`det_perm` with the sign made explicit.** -/
theorem det_perm_sign {n : Nat} {rows rows' : List (List Int)} (h : Square n rows)
    (hp : rows.Perm rows') :
    ∃ σ : Equiv.Perm (Fin n), rows' = reindexRows σ rows ∧
      det rows' = ((Equiv.Perm.sign σ : ℤˣ) : ℤ) * det rows := by
  obtain ⟨σ, hσ⟩ := exists_reindexRows_of_perm hp h.1
  exact ⟨σ, hσ, by rw [hσ, det_reindex σ h]⟩

/-! ## 4. Geometric predicates -/

/-- the model's `sgn` is core's `Int.sign` -/
theorem sgn_eq_sign (x : Int) : sgn x = x.sign := by
  unfold sgn
  rcases Int.lt_trichotomy x 0 with h | rfl | h
  · rw [if_neg (by omega), if_pos h, Int.sign_eq_neg_one_of_neg h]
  · rfl
  · rw [if_pos h, Int.sign_eq_one_of_pos h]

theorem sgn_neg (x : Int) : sgn (-x) = - sgn x := by
  rw [sgn_eq_sign, sgn_eq_sign, Int.sign_neg]

theorem sgn_zero : sgn 0 = 0 := rfl

theorem sqNorm_row_length (p : IPt) : (p ++ [sqNorm p, 1]).length = p.length + 2 := by simp

def Simplex (D : Nat) (s : List IPt) : Prop := s.length = D + 1 ∧ ∀ p ∈ s, p.length = D

instance (D : Nat) (s : List IPt) : Decidable (Simplex D s) := by
  unfold Simplex; infer_instance

theorem Simplex.exists_rowsOf {D : Nat} {s : List IPt} (h : Simplex D s) :
    ∃ P : Matrix (Fin (D + 1)) (Fin D) ℤ, s = rowsOf P := DM.exists_rowsOf h.1 h.2

/-- a facet (`D` points) and an apex -/
theorem Simplex.append_singleton {D : Nat} {F : List IPt} {a : IPt} (hF : F.length = D)
    (hFd : ∀ p ∈ F, p.length = D) (ha : a.length = D) : Simplex D (F ++ [a]) :=
  ⟨by rw [List.length_append, hF]; rfl,
    List.forall_mem_append.2 ⟨hFd, List.forall_mem_singleton.2 ha⟩⟩

def vadd (p t : IPt) : IPt := List.zipWith (· + ·) p t

theorem Simplex.map {D : Nat} {s : List IPt} {f : IPt → IPt} (h : Simplex D s)
    (hf : ∀ p, p.length = D → (f p).length = D) : Simplex D (s.map f) := by
  refine ⟨by rw [List.length_map, h.1], ?_⟩
  simp only [List.mem_map]
  rintro _ ⟨p, hp, rfl⟩
  exact hf p (h.2 p hp)

theorem Simplex.map_vadd {D : Nat} {s : List IPt} {t : IPt} (h : Simplex D s)
    (ht : t.length = D) : Simplex D (s.map (vadd · t)) :=
  h.map fun p hp => by simp [vadd, hp, ht]

/-- the paraboloid lift `p ↦ [p | ‖p‖²]` -/
def lift (p : IPt) : IPt := p ++ [sqNorm p]

/-- **In-sphere in dimension `D` is orientation of the lifted points in dimension `D + 1`**:
the in-sphere matrix is their orientation matrix. -/
theorem insphereRows_eq_orientRows_lift (s : List IPt) (q : IPt) :
    insphereRows s q = orientRows ((s ++ [q]).map lift) := by
  rw [insphereRows, orientRows, List.map_map]
  exact List.map_congr_left fun p _ => (List.append_assoc p [sqNorm p] [1]).symm

theorem insphereDet_eq_orientDet_lift (s : List IPt) (q : IPt) :
    insphereDet s q = orientDet ((s ++ [q]).map lift) :=
  congrArg det (insphereRows_eq_orientRows_lift s q)

theorem Simplex.lift {D : Nat} {s : List IPt} {q : IPt} (h : Simplex D s) (hq : q.length = D) :
    Simplex (D + 1) ((s ++ [q]).map lift) := by
  refine ⟨by simp [h.1], ?_⟩
  simp only [List.mem_map, List.mem_append, List.mem_singleton]
  rintro _ ⟨p, hp | rfl, rfl⟩
  · simp [DM.lift, h.2 p hp]
  · simp [DM.lift, hq]

theorem square_orientRows {D : Nat} {s : List IPt} (h : Simplex D s) :
    Square (D + 1) (orientRows s) := by
  refine ⟨by simp [orientRows, h.1], ?_⟩
  simp only [orientRows, List.mem_map]
  rintro _ ⟨p, hp, rfl⟩
  simp [h.2 p hp]

theorem square_insphereRows {D : Nat} {s : List IPt} {q : IPt} (h : Simplex D s)
    (hq : q.length = D) : Square (D + 2) (insphereRows s q) := by
  rw [insphereRows_eq_orientRows_lift]
  exact square_orientRows (h.lift hq)

theorem orientDet_swap {D : Nat} {s : List IPt} (h : Simplex D s) {i j : Nat} (hi : i < D + 1)
    (hj : j < D + 1) (hij : i ≠ j) :
    orientDet (swapAt s i j) = - orientDet s := by
  unfold orientDet orientRows
  rw [map_swapAt]
  exact det_swap (square_orientRows h) hi hj hij

theorem orientDet_perm {D : Nat} {s s' : List IPt} (h : Simplex D s) (hp : s.Perm s') :
    orientDet s' = orientDet s ∨ orientDet s' = - orientDet s :=
  det_perm (square_orientRows h) (hp.map (fun p => p ++ [1]))

theorem orientDet_eq_zero_of_not_nodup {D : Nat} {s : List IPt} (h : Simplex D s)
    (hd : ¬ s.Nodup) : orientDet s = 0 :=
  det_eq_zero_of_not_nodup (square_orientRows h) fun hn => hd (hn.of_map _)

/-- Replacing the apex (slot `i`) of a `D`-simplex by another of its own points (slot `j ≠ i`)
repeats a vertex, so the orientation determinant vanishes. -/
theorem orientDet_eraseIdx_append_getElem {D : Nat} {s : List IPt} (h : Simplex D s) {i j : Nat}
    (hi : i < s.length) (hj : j < s.length) (hij : j ≠ i) :
    orientDet (s.eraseIdx i ++ [s[j]]) = 0 := by
  have hmem : s[j] ∈ s.eraseIdx i := List.mem_eraseIdx_iff_getElem.2 ⟨j, hj, hij, rfl⟩
  have hsx : Simplex D (s.eraseIdx i ++ [s[j]]) :=
    .append_singleton (by rw [List.length_eraseIdx_of_lt hi, h.1]; rfl)
      (fun p hp => h.2 p (List.mem_of_mem_eraseIdx hp)) (h.2 _ (List.getElem_mem hj))
  exact orientDet_eq_zero_of_not_nodup hsx fun hn =>
    (List.nodup_append.1 hn).2.2 _ hmem _ (List.mem_singleton_self _) rfl

/-- **K2 symmetry, determinant form.**  For a facet `F` (`D` points) and two apexes `a`, `b`:
the in-sphere matrices of `(F ++ [a], b)` and `(F ++ [b], a)` differ by one row swap. -/
theorem k2_symmetric {D : Nat} {F : List IPt} {a b : IPt} (hF : F.length = D)
    (hFd : ∀ p ∈ F, p.length = D) (ha : a.length = D) (hb : b.length = D) :
    insphereDet (F ++ [a]) b = - insphereDet (F ++ [b]) a := by
  have h := (Simplex.append_singleton hF hFd hb).lift ha
  rw [insphereDet_eq_orientDet_lift, insphereDet_eq_orientDet_lift,
    ← orientDet_swap h (i := D) (j := D + 1) (by omega) (by omega) (by omega)]
  have := swapAt_adjacent (F.map lift) (lift b) (lift a) []
  rw [List.length_map, hF] at this
  simp [this]

end DM
