/-
Lemmas/SerdeAux.lean — helper lemmas for Props/C13.lean (what (de)serialisation keeps and rebuilds,
Model/Serde.lean): the facet data of a complex depends only on the `(id, vs)` pairs of its cells;
`assignNeighbors` is `map` of a per-cell rebuild `reCell`; `mapM`/`lookup` on the cell table;
`decode` as one chain of named Boolean checks (`decode_eq`, `decode_eq_some_iff`).
Core only (no Mathlib).
-/
import DelaunayModel.Model.Serde
import DelaunayModel.Lemmas.CxAux
namespace DM.Serde

open DM

/-! ### facet data only sees `(id, vs)` -/

/-- the `(id, vs)` pairs of the cells: the only cell data the facet functions look at -/
def idVs (cells : List Cell) : List (Nat × List Nat) := cells.map (fun c => (c.id, c.vs))

theorem allFacets_eq_pairs (K : Cx) : allFacets K = (idVs K.cells).flatMap (fun p =>
    (List.range p.2.length).map (fun i => (sortNat (p.2.eraseIdx i), p.1, i))) := by
  unfold allFacets idVs
  rw [List.flatMap_map]
  rfl

theorem allFacets_congr {K₁ K₂ : Cx} (h : idVs K₁.cells = idVs K₂.cells) :
    allFacets K₁ = allFacets K₂ := by
  rw [allFacets_eq_pairs, allFacets_eq_pairs, h]

theorem facetDeg_congr {K₁ K₂ : Cx} (h : idVs K₁.cells = idVs K₂.cells) (key : List Nat) :
    facetDeg K₁ key = facetDeg K₂ key := by
  unfold facetDeg
  rw [allFacets_congr h]

theorem facetKey_congr {c₁ c₂ : Cell} (hv : c₁.vs = c₂.vs) (i : Nat) :
    facetKey c₁ i = facetKey c₂ i := by
  unfold facetKey
  rw [hv]

theorem facetOthers_congr {K₁ K₂ : Cx} (h : idVs K₁.cells = idVs K₂.cells) {c₁ c₂ : Cell}
    (hid : c₁.id = c₂.id) (hv : c₁.vs = c₂.vs) (i : Nat) :
    facetOthers K₁ c₁ i = facetOthers K₂ c₂ i := by
  unfold facetOthers
  rw [allFacets_congr h, facetKey_congr hv, hid]

theorem facetLe2_congr {K₁ K₂ : Cx} (h : idVs K₁.cells = idVs K₂.cells) :
    facetLe2 K₁ = facetLe2 K₂ := by
  unfold facetLe2
  rw [allFacets_congr h]
  congr 1
  funext f
  rw [facetDeg_congr h]

theorem map_cellKey_eq_pairs (cells : List Cell) :
    cells.map cellKey = (idVs cells).map (fun p => sortNat p.2) := by
  unfold idVs
  rw [List.map_map]
  rfl

theorem noDupCells_congr {K₁ K₂ : Cx} (h : idVs K₁.cells = idVs K₂.cells) :
    noDupCells K₁ = noDupCells K₂ := by
  unfold noDupCells
  rw [map_cellKey_eq_pairs, map_cellKey_eq_pairs, h]

theorem idVs_getElem {cs₁ cs₂ : List Cell} (h : idVs cs₁ = idVs cs₂) {k : Nat}
    (h₁ : k < cs₁.length) (h₂ : k < cs₂.length) :
    cs₁[k].id = cs₂[k].id ∧ cs₁[k].vs = cs₂[k].vs := by
  have h1 : k < (idVs cs₁).length := by simpa [idVs] using h₁
  have h2 : k < (idVs cs₂).length := by simpa [idVs] using h₂
  have he : (idVs cs₁)[k] = (idVs cs₂)[k] := by simp only [h]
  simp only [idVs, List.getElem_map, Prod.mk.injEq] at he
  exact he

theorem idVs_length {cs₁ cs₂ : List Cell} (h : idVs cs₁ = idVs cs₂) : cs₁.length = cs₂.length := by
  have := congrArg List.length h
  simpa [idVs] using this

/-! ### the per-cell rebuild of `assignNeighbors` -/

/-- the neighbour slots `assignNeighbors` computes for cell `c` -/
def reSlots (K : Cx) (c : Cell) : List (Option Nat) :=
  (List.range c.vs.length).map (fun i => match facetOthers K c i with
    | [(c', _)] => some c'
    | _ => none)

/-- the cell `assignNeighbors` stores for `c`: same id and vertex slots, neighbour buffer recomputed
from facet sharing (no buffer at all if every slot is empty) -/
def reCell (K : Cx) (c : Cell) : Cell :=
  { id := c.id, vs := c.vs,
    nb := if (reSlots K c).all Option.isNone then none else some (reSlots K c) }

@[simp] theorem reCell_id (K : Cx) (c : Cell) : (reCell K c).id = c.id := rfl
@[simp] theorem reCell_vs (K : Cx) (c : Cell) : (reCell K c).vs = c.vs := rfl

theorem reSlots_length (K : Cx) (c : Cell) : (reSlots K c).length = c.vs.length := by
  simp [reSlots]

theorem assignNeighbors_eq (K : Cx) :
    assignNeighbors K = if facetLe2 K then some (K.cells.map (reCell K)) else none := by
  unfold assignNeighbors facetLe2
  cases h : (allFacets K).all (fun f => decide (facetDeg K f.1 ≤ 2)) <;> rfl

theorem assignNeighbors_eq_some_iff (K : Cx) (cells : List Cell) :
    assignNeighbors K = some cells ↔ facetLe2 K = true ∧ cells = K.cells.map (reCell K) := by
  rw [assignNeighbors_eq]
  cases facetLe2 K <;> simp [eq_comm]

theorem idVs_map_reCell (K : Cx) (cs : List Cell) : idVs (cs.map (reCell K)) = idVs cs := by
  simp [idVs, List.map_map, Function.comp_def]

theorem reSlots_congr {K₁ K₂ : Cx} (h : idVs K₁.cells = idVs K₂.cells) {c₁ c₂ : Cell}
    (hid : c₁.id = c₂.id) (hv : c₁.vs = c₂.vs) : reSlots K₁ c₁ = reSlots K₂ c₂ := by
  unfold reSlots
  rw [hv]
  congr 1
  funext i
  rw [facetOthers_congr h hid hv]

theorem reCell_congr {K₁ K₂ : Cx} (h : idVs K₁.cells = idVs K₂.cells) {c₁ c₂ : Cell}
    (hid : c₁.id = c₂.id) (hv : c₁.vs = c₂.vs) : reCell K₁ c₁ = reCell K₂ c₂ := by
  unfold reCell
  rw [reSlots_congr h hid hv, hid, hv]

/-- the value of the rebuilt slot `i` (any `i`, also past the end): dropping an all-empty buffer
changes no slot -/
theorem nbSlot_reCell (K : Cx) (c : Cell) (i : Nat) :
    nbSlot (reCell K c) i = (reSlots K c).getD i none := by
  unfold nbSlot reCell
  by_cases h : (reSlots K c).all Option.isNone = true
  · simp only [if_pos h, all_isNone_iff.1 h]
  · simp only [if_neg h]

theorem nbSlot_reCell_lt (K : Cx) (c : Cell) {i : Nat} (hi : i < c.vs.length) :
    nbSlot (reCell K c) i = (match facetOthers K c i with
      | [(n, _)] => some n
      | _ => none) := by
  rw [nbSlot_reCell, getD_lt _ (by rw [reSlots_length]; exact hi)]
  simp [reSlots]

theorem nbSlot_reCell_ge (K : Cx) (c : Cell) {i : Nat} (hi : c.vs.length ≤ i) :
    nbSlot (reCell K c) i = none := by
  rw [nbSlot_reCell, getD_ge _ (by rw [reSlots_length]; exact hi)]

theorem reCell_nb_length (K : Cx) (c : Cell) (l : List (Option Nat))
    (h : (reCell K c).nb = some l) : l.length = c.vs.length := by
  unfold reCell at h
  split at h
  · cases h
  · cases h
    exact reSlots_length K c

theorem okL1_reCell (D : Nat) (K : Cx) (c : Cell) (h : Cell.okL1 D c = true) :
    Cell.okL1 D (reCell K c) = true := by
  rw [Cell.okL1_iff] at h ⊢
  exact ⟨h.1, h.2.1, fun l hl => (reCell_nb_length K c l hl).trans h.1⟩

/-! ### `mapM` in `Option`, `lookup` in the cell table -/

theorem mapM_option_eq_some_map {α β : Type} (f : α → Option β) (g : α → β) (l : List α)
    (h : ∀ x ∈ l, f x = some (g x)) : l.mapM f = some (l.map g) := by
  rw [mapM_option_eq_some_iff, List.map_map]
  exact List.map_congr_left h

theorem lookup_idVs {cells : List Cell} (hnd : (cells.map (·.id)).Nodup) {c : Cell}
    (hc : c ∈ cells) : (idVs cells).lookup c.id = some c.vs :=
  lookup_map_key (·.id) (·.vs) hnd hc

/-! ### `assignIncident` keeps ids and coordinates -/

theorem assignIncident_idpt (verts : List (Nat × Option DPt)) (cells : List Cell) :
    (assignIncident verts cells).map (fun v => (v.id, v.pt)) = verts := by
  unfold assignIncident
  rw [List.map_map]
  exact (List.map_congr_left fun _ _ => rfl).trans (List.map_id _)

theorem assignIncident_ids (verts : List (Nat × Option DPt)) (cells : List Cell) :
    (assignIncident verts cells).map (·.id) = verts.map (·.1) := by
  unfold assignIncident
  rw [List.map_map]
  apply List.map_congr_left
  rintro ⟨id, pt⟩ _
  rfl

theorem mem_assignIncident {verts : List (Nat × Option DPt)} {cells : List Cell} {v : Vtx}
    (h : v ∈ assignIncident verts cells) : (v.id, v.pt) ∈ verts := by
  have := List.mem_map_of_mem (f := fun v : Vtx => (v.id, v.pt)) h
  rwa [assignIncident_idpt] at this

theorem exists_mem_assignIncident {verts : List (Nat × Option DPt)} (cells : List Cell)
    {p : Nat × Option DPt} (h : p ∈ verts) :
    ∃ v ∈ assignIncident verts cells, v.id = p.1 ∧ v.pt = p.2 := by
  rw [← assignIncident_idpt verts cells, List.mem_map] at h
  obtain ⟨v, hv, rfl⟩ := h
  exact ⟨v, hv, rfl, rfl⟩

/-! ### `decode` taken apart -/

/-- the cells as read from the table: no neighbour buffers yet -/
def rawCells (cvs : List (Nat × List Nat)) : List Cell :=
  cvs.map (fun (cid, vs) => { id := cid, vs := vs, nb := none })

/-- the vertex-less complex `assign_neighbors` runs on -/
def rawCx (D : Nat) (cvs : List (Nat × List Nat)) : Cx := { D := D, verts := [], cells := rawCells cvs }

/-- the complex `decode` returns when every check passes -/
def builtCx (doc : Doc) (cvs : List (Nat × List Nat)) : Cx :=
  { D := doc.D
    verts := assignIncident doc.verts ((rawCells cvs).map (reCell (rawCx doc.D cvs)))
    cells := (rawCells cvs).map (reCell (rawCx doc.D cvs)) }

/-- the table rows of the listed cells, in storage order (`none` if a cell has no row) -/
def tableRows (doc : Doc) : Option (List (Nat × List Nat)) :=
  doc.cells.mapM (fun cid => (doc.table.lookup cid).map (fun vs => (cid, vs)))

/-- every vertex uuid listed in a row is a stored vertex -/
def rowsKnown (doc : Doc) (cvs : List (Nat × List Nat)) : Bool :=
  cvs.all (fun (_, vs) => vs.all (fun v => doc.verts.any (·.1 == v)))

/-- the vertex records carry pairwise distinct uuids -/
def vertIdsNodup (doc : Doc) : Bool := decide (doc.verts.map (·.1)).Nodup

theorem vertIdsNodup_iff (doc : Doc) : vertIdsNodup doc = true ↔ (doc.verts.map (·.1)).Nodup :=
  decide_eq_true_iff

theorem rowsKnown_iff (doc : Doc) (cvs : List (Nat × List Nat)) :
    rowsKnown doc cvs = true ↔ ∀ p ∈ cvs, ∀ v ∈ p.2, ∃ q ∈ doc.verts, q.1 = v := by
  simp only [rowsKnown, List.all_eq_true, List.any_eq_true, beq_iff_eq]

theorem decode_eq (doc : Doc) :
    decode doc =
      if !(vertIdsNodup doc) then none else
      match tableRows doc with
      | none => none
      | some cvs =>
        if rowsKnown doc cvs && facetLe2 (rawCx doc.D cvs) && checkL1 (builtCx doc cvs) &&
            noDupCells (builtCx doc cvs)
        then some (builtCx doc cvs) else none := by
  unfold decode
  show (if (!(vertIdsNodup doc)) = true then none else
    match tableRows doc with
    | none => none
    | some cvs => if (!(rowsKnown doc cvs)) = true then none else
      match assignNeighbors (rawCx doc.D cvs) with
      | none => none
      | some cells => _) = _
  cases vertIdsNodup doc
  · rfl
  cases tableRows doc with
  | none => rfl
  | some cvs =>
    dsimp only
    rw [assignNeighbors_eq]
    cases rowsKnown doc cvs
    · rfl
    cases facetLe2 (rawCx doc.D cvs)
    · rfl
    · simp only [Bool.not_true, Bool.false_eq_true, if_false, if_true, Bool.true_and]
      rfl

theorem idVs_rawCells (cvs : List (Nat × List Nat)) : idVs (rawCells cvs) = cvs := by
  unfold idVs rawCells
  rw [List.map_map]
  exact (List.map_congr_left fun _ _ => rfl).trans (List.map_id _)

theorem idVs_builtCx (doc : Doc) (cvs : List (Nat × List Nat)) :
    idVs (builtCx doc cvs).cells = cvs := by
  unfold builtCx
  rw [idVs_map_reCell, idVs_rawCells]

theorem idVs_builtCx_rawCx (doc : Doc) (cvs : List (Nat × List Nat)) :
    idVs (builtCx doc cvs).cells = idVs (rawCx doc.D cvs).cells :=
  (idVs_builtCx doc cvs).trans (idVs_rawCells cvs).symm

/-- `decode` succeeds with `K` exactly when `K` is the complex built from the table rows of the listed
cells and passes the loader's checks -/
theorem decode_eq_some_iff (doc : Doc) (K : Cx) :
    decode doc = some K ↔
      (doc.verts.map (·.1)).Nodup ∧
      ∃ cvs, tableRows doc = some cvs ∧ K = builtCx doc cvs ∧ rowsKnown doc cvs = true ∧
        facetLe2 K = true ∧ checkL1 K = true ∧ noDupCells K = true := by
  rw [decode_eq, ← vertIdsNodup_iff]
  cases vertIdsNodup doc
  · simp
  cases tableRows doc with
  | none => simp
  | some cvs =>
    simp only [Bool.not_true, Bool.false_eq_true, if_false, true_and, Option.some.injEq,
      exists_eq_left', Option.ite_none_right_eq_some, Bool.and_eq_true, and_assoc,
      ← facetLe2_congr (idVs_builtCx_rawCx doc cvs)]
    constructor
    · rintro ⟨h1, h2, h3, h4, rfl⟩
      exact ⟨rfl, h1, h2, h3, h4⟩
    · rintro ⟨rfl, h1, h2, h3, h4⟩
      exact ⟨h1, h2, h3, h4, rfl⟩

theorem rawCells_map_reCell (K : Cx) (D : Nat) :
    (rawCells (idVs K.cells)).map (reCell (rawCx D (idVs K.cells))) = K.cells.map (reCell K) := by
  unfold rawCells idVs
  rw [List.map_map, List.map_map]
  apply List.map_congr_left
  intro c _
  apply reCell_congr
  · show idVs (rawCells (idVs K.cells)) = idVs K.cells
    rw [idVs_rawCells]
  · rfl
  · rfl

theorem tableRows_encode (K : Cx) (hnd : (K.cells.map (·.id)).Nodup) :
    tableRows (encode K) = some (idVs K.cells) := by
  unfold tableRows encode
  rw [List.mapM_map]
  refine mapM_option_eq_some_map _ (fun c : Cell => (c.id, c.vs)) K.cells ?_
  intro c hc
  show Option.map (fun vs => (c.id, vs)) ((idVs K.cells).lookup c.id) = _
  rw [lookup_idVs hnd hc]
  rfl

theorem rowsKnown_encode (K : Cx) : rowsKnown (encode K) (idVs K.cells) = vertsExist K := by
  simp only [rowsKnown, encode, idVs, vertsExist, List.all_map, List.any_map, Function.comp_def]
  rfl

theorem tableRows_ids (doc : Doc) (cvs : List (Nat × List Nat)) (h : tableRows doc = some cvs) :
    cvs.map (·.1) = doc.cells :=
  mapM_option_fst (fun cid => doc.table.lookup cid) doc.cells cvs h

end DM.Serde
