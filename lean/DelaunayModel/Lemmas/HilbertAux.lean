/-
Lemmas/HilbertAux.lean — the inverse Hilbert transform `hilbertPoint` (Skilling's TransposeToAxes, adapted to
invert `Model/Hilbert.lean`'s `hilbertIndex` exactly), the grid as a predicate (`InGrid`) and as a list
(`grid`), the L1 distance `l1` with its summand `absDiff`, and the Boolean table checks `curveOk` / `mortonOk`
over the curve as a list, with what the adjacency check says (`chain_curvePts_iff`, `l1_eq_one`).  That `hilbertPoint`
inverts `hilbertIndex` is in `Lemmas/HilbertInverse.lean`, adjacency of the curve in `Lemmas/HilbertAdjacent.lean`.
Core only.
-/
import DelaunayModel.Model.Hilbert
namespace DM.HilbertAux

open DM.Hilbert

/-- de-interleave: coordinate `j` (of `D`) gets, at bit position `p`, bit `p*D + (D-1-j)` of `index` -/
def deinterleave (D bits index : Nat) : List Nat :=
  (List.range D).map (fun j =>
    (List.range bits).foldl (fun acc p => acc ||| (((index >>> (p * D + (D - 1 - j))) &&& 1) <<< p)) 0)

/-- undo the Gray step: `t = X[D-1] >> 1; X[i] ^= X[i-1] (i = D-1 … 1); X[0] ^= t` -/
def grayDecode (x : List Nat) : List Nat :=
  List.zipWith (· ^^^ ·) x ((x.getLastD 0 >>> 1) :: x)

/-- one inverse pass for `mask = Q`: coordinates visited from the last down to the first -/
def invPass (mask : Nat) (t : List Nat) : List Nat :=
  match t with
  | [] => []
  | t0 :: rest =>
    let m1 := mask - 1
    let (f, out) := rest.foldr (fun c (acc : Nat × List Nat) =>
      let (f, out) := acc
      if c &&& mask != 0 then (f ^^^ m1, c :: out)
      else
        let toggle := (f ^^^ c) &&& m1
        (f ^^^ toggle, (c ^^^ toggle) :: out)) (t0, [])
    (if f &&& mask != 0 then f ^^^ m1 else f) :: out

/-- undo the excess work: masks 2, 4, …, 2^(bits-1) -/
def transposeToAxes (bits : Nat) (t : List Nat) : List Nat :=
  (List.range (bits - 1)).foldl (fun acc j => invPass (2 ^ (j + 1)) acc) t

/-- inverse of `hilbertIndex bits` on the `D`-dimensional grid (Skilling's TransposeToAxes) -/
def hilbertPoint (D bits index : Nat) : List Nat :=
  transposeToAxes bits (grayDecode (deinterleave D bits index))

/-- L1 distance of two coordinate lists (over the common prefix length) -/
def l1 : List Nat → List Nat → Nat
  | a :: as, b :: bs => (if a ≤ b then b - a else a - b) + l1 as bs
  | _, _ => 0

/-- consecutive entries are at L1 distance exactly 1 -/
def chain : List (List Nat) → Bool
  | p :: q :: rest => l1 p q == 1 && chain (q :: rest)
  | _ => true

/-- the curve as a list: `hilbertPoint D b i` for `i = 0 … 2^(D*b) - 1` -/
def curvePts (D b : Nat) : List (List Nat) := (List.range (2 ^ (D * b))).map (hilbertPoint D b)

/-- the table check: (1) `hilbertIndex ∘ hilbertPoint = id` on `[0, 2^(D*b))`, (2) every curve point
lies in the grid `[0,2^b)^D`, (3) consecutive curve points are at L1 distance 1 -/
def curveOk (D b : Nat) : Bool :=
  let pts := curvePts D b
  pts.map (hilbertIndex b) == List.range (2 ^ (D * b)) &&
    pts.all (fun p => p.length == D && p.all (· < 2 ^ b)) && chain pts

/-- the grid `[0, 2^b)^D` -/
def InGrid (D b : Nat) (c : List Nat) : Prop := c.length = D ∧ ∀ x ∈ c, x < 2 ^ b

/-- all `D`-tuples with entries `< m` -/
def grid (m : Nat) : Nat → List (List Nat)
  | 0 => [[]]
  | D+1 => (List.range m).flatMap (fun x => (grid m D).map (x :: ·))

/-- Morton table check: on every grid cell the code is in range and de-interleaves back -/
def mortonOk (D b : Nat) : Bool :=
  (grid (2 ^ b) D).all (fun c => mortonCode b c < 2 ^ (D * b) && deinterleave D b (mortonCode b c) == c)

/-! ### L1 distance -/

/-- the summand of `l1` -/
def absDiff (a b : Nat) : Nat := if a ≤ b then b - a else a - b

theorem l1_cons (a b : Nat) (as bs : List Nat) : l1 (a :: as) (b :: bs) = absDiff a b + l1 as bs := rfl

theorem absDiff_eq_zero {a b : Nat} : absDiff a b = 0 ↔ a = b := by
  unfold absDiff
  split <;> omega

theorem absDiff_eq_one {a b : Nat} : absDiff a b = 1 ↔ a + 1 = b ∨ b + 1 = a := by
  unfold absDiff
  split <;> omega

theorem absDiff_comm (a b : Nat) : absDiff a b = absDiff b a := by
  rcases Nat.lt_trichotomy a b with h | rfl | h
  · rw [absDiff, absDiff, if_pos (Nat.le_of_lt h), if_neg (Nat.not_le_of_gt h)]
  · rfl
  · rw [absDiff, absDiff, if_neg (Nat.not_le_of_gt h), if_pos (Nat.le_of_lt h)]

theorem absDiff_add_left (t a b : Nat) : absDiff (t + a) (t + b) = absDiff a b := by
  unfold absDiff
  simp only [Nat.add_le_add_iff_left, Nat.add_sub_add_left]

/-- a reflection reverses the order and keeps the difference -/
theorem absDiff_sub_left {m a b : Nat} (ha : a ≤ m) (hb : b ≤ m) : absDiff (m - a) (m - b) = absDiff a b := by
  have h1 : m - b - (m - a) = a - b := by rw [Nat.sub_right_comm, Nat.sub_sub_self ha]
  have h2 : m - a - (m - b) = b - a := by rw [Nat.sub_right_comm, Nat.sub_sub_self hb]
  rw [absDiff_comm a b]
  unfold absDiff
  simp only [Nat.sub_le_sub_iff_left hb, h1, h2]

theorem l1_self (p : List Nat) : l1 p p = 0 := by
  induction p with
  | nil => rfl
  | cons x p ih => rw [l1_cons, ih, absDiff_eq_zero.2 rfl]

theorem l1_eq_zero {p q : List Nat} (hl : p.length = q.length) (h : l1 p q = 0) : p = q := by
  induction p generalizing q with
  | nil => cases q with
    | nil => rfl
    | cons y ys => simp at hl
  | cons x xs ih =>
    cases q with
    | nil => simp at hl
    | cons y ys =>
      obtain ⟨h1, h2⟩ := Nat.add_eq_zero_iff.1 h
      rw [absDiff_eq_zero.1 h1, ih (by simpa using hl) h2]

theorem l1_eq_one {p q : List Nat} (hl : p.length = q.length) (h : l1 p q = 1) :
    ∃ pre x y post, p = pre ++ x :: post ∧ q = pre ++ y :: post ∧ (x + 1 = y ∨ y + 1 = x) := by
  induction p generalizing q with
  | nil => cases q with
    | nil => simp [l1] at h
    | cons y ys => simp at hl
  | cons x xs ih =>
    cases q with
    | nil => simp at hl
    | cons y ys =>
      have hl' : xs.length = ys.length := by simpa using hl
      -- a sum of two naturals is 1: the heads agree and the tails are at distance 1, or the heads
      -- differ by 1 and the tails agree
      rcases Nat.add_eq_one_iff.1 h with ⟨h1, h2⟩ | ⟨h1, h2⟩
      · obtain ⟨pre, a, b, post, e1, e2, h3⟩ := ih hl' h2
        exact ⟨x :: pre, a, b, post, by rw [e1]; rfl, by rw [absDiff_eq_zero.1 h1, e2]; rfl, h3⟩
      · exact ⟨[], x, y, xs, rfl, by rw [l1_eq_zero hl' h2]; rfl, absDiff_eq_one.1 h1⟩

theorem chain_iff {l : List (List Nat)} :
    chain l = true ↔ ∀ i (hi : i + 1 < l.length), l1 l[i] l[i + 1] = 1 := by
  induction l with
  | nil => exact ⟨fun _ i hi => absurd hi (Nat.not_lt_zero _), fun _ => rfl⟩
  | cons p t ih =>
    cases t with
    | nil => exact ⟨fun _ i hi => absurd hi (by simp), fun _ => rfl⟩
    | cons q rest =>
      rw [chain, Bool.and_eq_true, beq_iff_eq, ih]
      constructor
      · rintro ⟨h0, h⟩ i hi
        cases i with
        | zero => exact h0
        | succ k => exact h k (by simpa using hi)
      · exact fun h => ⟨h 0 (by simp), fun i hi => h (i + 1) (by simpa using hi)⟩

theorem chain_curvePts_iff {D b : Nat} :
    chain (curvePts D b) = true ↔
      ∀ i, i + 1 < 2 ^ (D * b) → l1 (hilbertPoint D b i) (hilbertPoint D b (i + 1)) = 1 := by
  simp only [chain_iff, curvePts, List.length_map, List.length_range, List.getElem_map, List.getElem_range]

end DM.HilbertAux
