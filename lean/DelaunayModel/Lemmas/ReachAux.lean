/-
Lemmas/ReachAux.lean — helper lemmas for the Level-3 connectivity validator (`reachStep`,
`reachFuel`, `connected` in Model/Cx.lean) used by Props/C05.lean §7:
 * the declarative relations `PointsTo` (a stored cell lists an id among its neighbour pointers),
   `Next` (… and the id is stored) and `Reach` (reflexive-transitive closure of `Next`),
 * one BFS round `reachStep` is a sweep over the cells that pushes the id of a cell some seen
   cell points to (`reachStep_eq`, `mem_reachStep`), hence a `Round` for `Next K` in the sense of
   Lemmas/Closure.lean (`reachStep_round`),
 * so with fuel `cells.length` the search from a stored cell lists, once each, the ids reachable
   from it (`reachFuel_isClosure`, `IsClosure.mem_iff_reach`).
Core only (no Mathlib).
-/
import DelaunayModel.Lemmas.CxAux
import DelaunayModel.Lemmas.Closure
namespace DM

def PointsTo (K : Cx) (a b : Nat) : Prop :=
  ∃ s ∈ K.cells, s.id = a ∧ ∃ l, s.nb = some l ∧ some b ∈ l

/-- `b` is reachable from `a` by following neighbour pointers through stored cells -/
inductive Reach (K : Cx) (a : Nat) : Nat → Prop
  | refl : Reach K a a
  | step {b c : Nat} : Reach K a b → PointsTo K b c → (∃ t ∈ K.cells, t.id = c) → Reach K a c

theorem Reach.trans {K : Cx} {a b c : Nat} (h1 : Reach K a b) (h2 : Reach K b c) : Reach K a c := by
  induction h2 with
  | refl => exact h1
  | step _ hp ht ih => exact Reach.step ih hp ht

/-- the step of `Reach`: a pointer to a stored id -/
def Next (K : Cx) (a b : Nat) : Prop := PointsTo K a b ∧ ∃ t ∈ K.cells, t.id = b

theorem IsClosure.mem_iff_reach {K : Cx} {v : Nat} {r : List Nat} (hr : IsClosure (Next K) v r)
    {x : Nat} : x ∈ r ↔ Reach K v x := by
  constructor
  · exact hr.least (Reach K v) .refl (fun _ _ h hab => .step h hab.1 hab.2) x
  · intro h
    induction h with
    | refl => exact hr.start
    | step _ hp ht ih => exact hr.closed _ _ ih ⟨hp, ht⟩

/-- the joining test of `reachStep`: some already-seen cell points to `c` -/
def joins (K : Cx) (seen : List Nat) (c : Cell) : Bool :=
  K.cells.any (fun s => seen.contains s.id &&
    (match s.nb with | none => false | some l => l.contains (some c.id)))

theorem joins_iff (K : Cx) (seen : List Nat) (c : Cell) :
    joins K seen c = true ↔ ∃ a ∈ seen, PointsTo K a c.id := by
  unfold joins PointsTo
  rw [List.any_eq_true]
  constructor
  · rintro ⟨s, hs, h⟩
    rw [Bool.and_eq_true] at h
    cases hnb : s.nb with
    | none =>
      rw [hnb] at h
      exact absurd h.2 Bool.false_ne_true
    | some l =>
      rw [hnb] at h
      exact ⟨s.id, List.contains_iff_mem.1 h.1, s, hs, rfl, l, hnb, List.contains_iff_mem.1 h.2⟩
  · rintro ⟨a, ha, s, hs, rfl, l, hl, hm⟩
    refine ⟨s, hs, ?_⟩
    rw [Bool.and_eq_true, hl]
    exact ⟨List.contains_iff_mem.2 ha, List.contains_iff_mem.2 hm⟩

theorem reachStep_eq (K : Cx) (seen : List Nat) :
    reachStep K seen = K.cells.foldl (fun acc c => pushNew (joins K seen c) c.id acc) seen := by
  simp only [pushNew_eq_ite]
  rfl

theorem mem_reachStep (K : Cx) (seen : List Nat) (x : Nat) :
    x ∈ reachStep K seen ↔
      x ∈ seen ∨ ((∃ t ∈ K.cells, t.id = x) ∧ ∃ a ∈ seen, PointsTo K a x) := by
  rw [reachStep_eq, mem_foldl_pushNew]
  simp only [joins_iff]
  exact or_congr Iff.rfl ⟨fun ⟨c, hc, ⟨a, ha, hp⟩, e⟩ => ⟨⟨c, hc, e.symm⟩, a, ha, e ▸ hp⟩,
    fun ⟨⟨c, hc, e⟩, a, ha, hp⟩ => ⟨c, hc, ⟨a, ha, e ▸ hp⟩, e.symm⟩⟩

theorem reachStep_round (K : Cx) : Round (Next K) (reachStep K) :=
  (Round.of_pushes (R := Next K) K.cells (fun s _ c => joins K s c) (·.id)
    (fun s acc c hsub hc hj => by
      obtain ⟨a, ha, hp⟩ := (joins_iff K s c).1 hj
      exact ⟨a, hsub ha, hp, c, hc, rfl⟩)
    (fun s a b ha hab => by
      obtain ⟨hp, c, hc, rfl⟩ := hab
      exact ⟨c, hc, (joins_iff K s c).2 ⟨a, ha, hp⟩, rfl⟩)).congr (reachStep_eq K)

theorem reachFuel_zero (K : Cx) (seen : List Nat) : reachFuel K 0 seen = seen := rfl

theorem reachFuel_eq (K : Cx) (f : Nat) (s : List Nat) :
    reachFuel K f s = growFuel (reachStep K) f s := by
  induction f generalizing s with
  | zero => rfl
  | succ f ih => simp only [reachFuel, growFuel, ih]

theorem reachFuel_isClosure (K : Cx) {c : Cell} (hc : c ∈ K.cells) :
    IsClosure (Next K) c.id (reachFuel K K.cells.length [c.id]) := by
  rw [reachFuel_eq]
  -- the closure is bounded by the list of stored ids
  exact (reachStep_round K).isClosure (B := K.cells.map (·.id)) (fun _ _ _ h => List.mem_map.2 h.2)
    (List.mem_map.2 ⟨c, hc, rfl⟩) (by rw [List.length_map]; exact Nat.le_refl _)

end DM
