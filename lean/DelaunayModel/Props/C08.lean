/-
Props/C08.lean — property theorems for C08 (flip-based repair returns a Delaunay triangulation of
the same vertices).

For EVERY flip scheduler (`Env.attempt`) and every rebuild behaviour (`Env.rebuild`):
 * `Gated` (commit-or-restore for a result with the state left behind), proved of each level as a
   statement about the value it returns: `repairK2K3_gated`, `repairPublic_gated`,
   `repairAdvanced_gated`; its two halves, per entry point:
 * `repair_ok_gated` / `advanced_ok_gated`: `Ok` is returned only for a state the postcondition
   verifier accepted (what that verdict means is C04; the K3 tie re-judges it exactly);
 * `repair_err_unchanged` / `advanced_err_unchanged`: every `Err` leaves the pre-repair state;
 * `repair_inadmissible_untouched`: when the guarantee does not admit facet flips the public
   entry point returns `InvalidTopology` without running an attempt; `admissible_table` is the
   library's admissibility relation (facet flips are admissible under all three guarantees —
   docs/workflows.md says otherwise; the code and its unit tests are taken as the contract);
 * `repair_decision_table`: automatic repair proceeds iff the policy is due AND the operation is
   admissible; never with `Never`, never in D < 2, never without cells;
 * `rebuild_bounded`: `rebuildCalls`, the number of candidates requested, defined beside
   `rebuildLoop` with the same recursion, is at most `fuel` (a statement about that counter; no
   theorem ties it to `rebuildLoop`).
Not proved: convergence (false in general for D ≥ 3 from arbitrary triangulations), and that flips
with 2 ≤ k ≤ D keep the vertex set — that is `C07.flip_vertex_set`.
-/
import DelaunayModel.Model.Repair
import DelaunayModel.Lemmas.ListAux
namespace DM.C08

open DM.Policy DM.Repair

variable {S : Type}

/-- an `Ok` of the three attempts carries a verified state, and that state is the one left behind -/
def OkChecked (env : Env S) : Except RErr (S × Nat) × S → Prop
  | (.ok (s', _), fin) => env.post s' = true ∧ fin = s'
  | (.error _, _) => True

/-- the gate each attempt goes through: its state is returned only if the verifier accepts it -/
theorem OkChecked.gate {env : Env S} {s : S} {n : Nat} {r : Except RErr (S × Nat) × S}
    (h : OkChecked env r) : OkChecked env (if env.post s = true then (.ok (s, n), s) else r) := by
  split
  · exact ⟨‹_›, rfl⟩
  · exact h

theorem attempts_okChecked (env : Env S) (robust : Bool) (s0 : S) :
    OkChecked env (attempts env robust s0) := by
  unfold attempts
  extract_lets second
  -- attempt 2 passes the gate, or attempt 3 follows (the last one), or the call fails
  have h2 : OkChecked env (second ()) := by
    simp only [second]
    split
    · refine .gate ?_
      split
      · exact .gate trivial
      · trivial
    · split
      · exact .gate trivial
      · trivial
    · trivial
  -- attempt 1 settles the call or hands over to `second ()`
  split
  · exact .gate h2
  · exact h2
  · trivial

/-- commit-or-restore: `Ok` comes with a state the postcondition verifier accepted, `Err` with the
state the call started from -/
def Gated {α : Type} (env : Env S) (s0 : S) : Except RErr α × S → Prop
  | (.ok _, s') => env.post s' = true
  | (.error _, s') => s' = s0

theorem Gated.ok {α : Type} {env : Env S} {s0 s' : S} {r : Except RErr α × S} {a : α}
    (h : Gated env s0 r) (e : r = (.ok a, s')) : env.post s' = true := by
  subst e; exact h

theorem Gated.error {α : Type} {env : Env S} {s0 s' : S} {r : Except RErr α × S} {x : RErr}
    (h : Gated env s0 r) (e : r = (.error x, s')) : s' = s0 := by
  subst e; exact h

theorem repairK2K3_gated (env : Env S) (robust : Bool) (s0 : S) :
    Gated env s0 (repairK2K3 env robust s0) := by
  unfold repairK2K3
  split
  · have h := attempts_okChecked env robust s0
    rw [‹attempts env robust s0 = _›] at h
    exact h.1
  · rfl

theorem repairPublic_gated (env : Env S) (s0 : S) : Gated env s0 (repairPublic env s0) := by
  unfold repairPublic
  split
  · rfl
  · exact repairK2K3_gated env false s0

/-- **gate**: the public entry point returns `Ok` only for a verified state -/
theorem repair_ok_gated (env : Env S) (s0 s' : S) (n : Nat)
    (h : repairPublic env s0 = (.ok n, s')) : env.post s' = true :=
  (repairPublic_gated env s0).ok h

theorem repair_err_unchanged (env : Env S) (s0 s' : S) (e : RErr)
    (h : repairPublic env s0 = (.error e, s')) : s' = s0 :=
  (repairPublic_gated env s0).error h

theorem repair_inadmissible_untouched (env : Env S) (s0 : S)
    (h : Operation.facetFlip.admissibleUnder (env.guarantee s0) = false) :
    repairPublic env s0 = (.error .invalidTopology, s0) := by
  unfold repairPublic; simp [h]

theorem admissible_table (op : Operation) (g : Guarantee) :
    op.admissibleUnder g = false ↔ (op = .cavityFlip ∧ g = .pseudomanifold) := by
  cases op <;> cases g <;> decide

theorem repair_decision_table (p : RepairPolicy) (count : Nat) (g : Guarantee) (op : Operation) :
    p.decide count g op = .proceed ↔ (p.shouldRepair count = true ∧ op.admissibleUnder g = true) := by
  unfold RepairPolicy.decide
  cases h1 : p.shouldRepair count <;> cases h2 : op.admissibleUnder g <;> simp

theorem shouldRunRepair_iff (D : Nat) (hasCells : Bool) (p : RepairPolicy) (count : Nat) (g : Guarantee) :
    shouldRunRepair D hasCells p count g = true ↔
      (2 ≤ D ∧ hasCells = true ∧ p ≠ .never ∧ p.shouldRepair count = true ∧
        Operation.facetFlip.admissibleUnder g = true) := by
  unfold shouldRunRepair
  rw [guard_iff, guard_iff, guard_iff, beq_iff_eq, beq_iff_eq,
    repair_decision_table, Nat.not_lt, Bool.not_eq_true', Bool.not_eq_false]

/-- a candidate is accepted only after the final flip repair on it returned `Ok` -/
theorem rebuildLoop_accepted (env : Env S) (s0 c : S) (n fuel i : Nat)
    (h : rebuildLoop env s0 fuel i = some (c, n)) : env.post c = true := by
  fun_induction rebuildLoop env s0 fuel i with
  | case1 => cases h
  | case2 _ _ cand _ n' c' heq => cases h; exact (repairK2K3_gated env false cand).ok heq
  | case3 _ _ _ _ _ _ _ ih => exact ih h
  | case4 _ _ _ ih => exact ih h

theorem repairAdvanced_gated (env : Env S) (k : Nat) (s0 : S) :
    Gated env s0 (repairAdvanced env k s0) := by
  unfold repairAdvanced
  split
  · exact (repairPublic_gated env s0).ok ‹_›
  · split
    · split
      · exact (repairK2K3_gated env true s0).ok ‹_›
      · split
        · exact rebuildLoop_accepted env s0 _ _ k 0 ‹_›
        · rfl
    · rfl

theorem advanced_ok_gated (env : Env S) (k : Nat) (s0 s' : S) (n : Nat) (heur : Bool)
    (h : repairAdvanced env k s0 = (.ok (n, heur), s')) : env.post s' = true :=
  (repairAdvanced_gated env k s0).ok h

theorem advanced_err_unchanged (env : Env S) (k : Nat) (s0 s' : S) (e : RErr)
    (h : repairAdvanced env k s0 = (.error e, s')) : s' = s0 :=
  (repairAdvanced_gated env k s0).error h

/-- number of rebuild candidates `rebuildLoop` requests; same recursion as `rebuildLoop` -/
def rebuildCalls (env : Env S) (s0 : S) : Nat → Nat → Nat
  | 0, _ => 0
  | fuel+1, i =>
    match env.rebuild i s0 with
    | some c =>
      match repairK2K3 env false c with
      | (.ok _, _) => 1
      | (.error _, _) => 1 + rebuildCalls env s0 fuel (i + 1)
    | none => 1 + rebuildCalls env s0 fuel (i + 1)

theorem rebuild_bounded (env : Env S) (s0 : S) (fuel i : Nat) : rebuildCalls env s0 fuel i ≤ fuel := by
  fun_induction rebuildCalls env s0 fuel i <;> omega

/-- non-vacuity: attempt 1 fails its postcondition, attempt 2 (from the snapshot) passes -/
example : repairPublic (S := Nat)
    { attempt := fun i _ s => .ok (s + i, i), post := fun s => s == 2,
      rebuild := fun _ _ => none, guarantee := fun _ => .plManifold } 0 = (.ok 2, 2) := by rfl
/-- non-vacuity: all three attempts fail ⇒ Err and the original state -/
example : (repairPublic (S := Nat)
    { attempt := fun i _ s => .ok (s + i, i), post := fun _ => false,
      rebuild := fun _ _ => none, guarantee := fun _ => .plManifold } 0).2 = 0 := by rfl

end DM.C08
