/-
Props/C02.lean — property theorems for C02 (incremental insertion never leaves the validity
stack broken).

 * `selectCheck_*`: the validation chosen after an insertion, as a function of
   (ValidationPolicy, TopologyGuarantee, suspicion, build profile), is the documented table; in
   particular under PLManifold / PLManifoldStrict an insertion that produced cells is NEVER
   committed unchecked, and under `Always` the full Level 3 runs.
 * `safetyNet_ok_checked`: whatever `try_insert_impl` does (it is a parameter), a state returned
   by the safety net has no cells (bootstrap) or passed the selected check — star-split fallback
   included.
 * `insert_commit_or_restore`: `insert_transactional` either commits such a state or leaves the
   snapshot in place (Skipped and Err alike), for every number of perturbation retries.
Modelled, not verified: the cavity / hull-extension / star-split geometry (`Env.impl`).  Under
`ValidationPolicy::Never` + `Pseudomanifold` no check runs (`selectCheck_never_pseudo`); there the
property rests on the algorithm alone and only the K3 tie speaks.
 * cavity section (end of file, Model/Cavity.lean): the CELL-SET edit of the cavity / hull-extension
   step (remove the conflict region `C`, cone the new vertex over `F`) — count, star/link of the new
   vertex, which old vertices survive (`cavity_swallowed_vertex_isolated`), facet degrees, and the
   executable step check `cavityStepProblem` (sound; complete for the cell list the model computes,
   not for its reorderings).  The geometry (which cells are in conflict, which hull facets are
   visible) stays a parameter.
-/
import DelaunayModel.Model.Insert
import DelaunayModel.Lemmas.CavityAux
namespace DM.C02

open DM.Policy DM.Insert
-- Model/Cavity.lean (imported for the cavity section at the end of this file) brings in Model/Cx.lean,
-- whose `DM.Guarantee` (:= Nat) would shadow `DM.Policy.Guarantee` inside `namespace DM.C02`; the
-- alias makes `Guarantee` mean `DM.Policy.Guarantee` here.
export DM.Policy (Guarantee)

theorem selectCheck_table (p : VPolicy) (g : Guarantee) (susp debug hasCells : Bool) :
    selectCheck p g susp debug hasCells =
      if !hasCells then Check.none
      else if p.shouldValidate susp debug then Check.full
      else match g with
        | .plManifoldStrict => Check.linksStrict
        | .plManifold => Check.links
        | .pseudomanifold => Check.none := by
  -- once `g` is a constructor the two `requires…` tests compute, and both sides are the same `if`s
  cases g <;> rfl

theorem selectCheck_always (g : Guarantee) (susp debug : Bool) :
    selectCheck .always g susp debug true = .full := rfl

/-- PL guarantees are non-negotiable: some check always runs once there are cells -/
theorem selectCheck_pl_never_none (p : VPolicy) (g : Guarantee) (susp debug : Bool)
    (hg : g ≠ .pseudomanifold) : selectCheck p g susp debug true ≠ .none := by
  rw [selectCheck_table, if_neg (by decide)]
  cases g
  · exact absurd rfl hg
  all_goals
    split <;> exact Check.noConfusion

theorem selectCheck_strict (p : VPolicy) (susp debug : Bool) :
    selectCheck p .plManifoldStrict susp debug true = .full ∨
    selectCheck p .plManifoldStrict susp debug true = .linksStrict := by
  rw [selectCheck_table, if_neg (by decide)]
  split
  · exact Or.inl rfl
  · exact Or.inr rfl

/-- the one combination in which nothing is validated -/
theorem selectCheck_never_pseudo (susp debug : Bool) :
    selectCheck .never .pseudomanifold susp debug true = .none := rfl

theorem selectCheck_suspicious (g : Guarantee) (debug : Bool) :
    selectCheck .onSuspicion g true debug true = .full := rfl

/-- setters refuse exactly `Never` under a PL guarantee -/
theorem compatible_table (g : Guarantee) (p : VPolicy) :
    g.compatibleWith p = false ↔ (g ≠ .pseudomanifold ∧ p = .never) := by
  cases g <;> cases p <;> simp [Guarantee.compatibleWith]

variable {S : Type}

theorem safetyNet_ok_checked (env : Env S) (p : VPolicy) (g : Guarantee) (debug : Bool)
    (snap : S) (attempt : Nat) (s' : S) (h : safetyNet env p g debug snap attempt = .ok s') :
    env.hasCells s' = false ∨
      ∃ susp, env.runCheck (selectCheck p g susp debug true) s' = true := by
  unfold safetyNet at h
  cases h1 : env.impl snap attempt false with
  | error e => rw [h1] at h; cases h
  | ok r1 =>
    rw [h1] at h
    -- first exit: a bootstrap state; second exit: the selected check passed
    rcases ite_ok_eq_ok h with ⟨hc, rfl⟩ | ⟨_, h⟩
    · exact Or.inl (by simpa using hc)
    rcases ite_ok_eq_ok h with ⟨hchk, rfl⟩ | ⟨_, h⟩
    · exact Or.inr ⟨_, hchk⟩
    -- third exit: the star-split fallback passed its check
    obtain ⟨_, h⟩ := ite_error_eq_ok h
    cases h2 : env.impl snap attempt true with
    | error e => rw [h2] at h; cases h
    | ok r2 =>
      obtain ⟨s2, _⟩ := r2
      rw [h2] at h
      rcases ite_ok_eq_ok h with ⟨hchk, rfl⟩ | ⟨_, h⟩
      · cases hc2 : env.hasCells s2 with
        | false => exact Or.inl rfl
        | true => exact Or.inr ⟨true, hc2 ▸ hchk⟩
      · cases h

/-- what every insertion must satisfy: `Inserted s'` leaves exactly `s'` (which is bootstrap or
passed its check); every other outcome leaves the snapshot `s0`. -/
def CommitOrRestore (env : Env S) (p : VPolicy) (g : Guarantee) (debug : Bool) (s0 : S) :
    Outcome S × S → Prop
  | (.inserted s', final) => final = s' ∧
      (env.hasCells s' = false ∨ ∃ susp, env.runCheck (selectCheck p g susp debug true) s' = true)
  | (.skipped _, final) => final = s0
  | (.failed _, final) => final = s0

theorem insertLoop_commit_or_restore (env : Env S) (p : VPolicy) (g : Guarantee) (debug : Bool)
    (s0 : S) (fuel attempt : Nat) :
    CommitOrRestore env p g debug s0 (insertLoop env p g debug s0 fuel attempt) := by
  -- one case per way a round of the loop ends; only the retry looks at the next round
  induction fuel, attempt using insertLoop.induct env p g debug s0 with
  | case1 => exact rfl
  | case2 fuel attempt hdup =>
    simp only [insertLoop, hdup, ↓reduceIte]
    exact rfl
  | case3 fuel attempt hdup s1 hsn =>
    simp only [insertLoop, hdup, hsn]
    exact ⟨rfl, safetyNet_ok_checked env p g debug s0 attempt s1 hsn⟩
  | case4 fuel attempt hdup e hsn hd =>
    simp only [insertLoop, hdup, hsn, hd, ↓reduceIte]
    exact rfl
  | case5 fuel attempt hdup e hsn hd hr ih =>
    simp only [insertLoop, hdup, hsn, hd, hr]
    exact ih
  | case6 fuel attempt hdup e hsn hd hr =>
    simp only [insertLoop, hdup, hsn, hd, hr]
    exact rfl

/-- **commit-or-restore** for `insert_transactional`, any number of perturbation retries -/
theorem insert_commit_or_restore (env : Env S) (p : VPolicy) (g : Guarantee) (debug : Bool)
    (maxPerturb : Nat) (s0 : S) :
    CommitOrRestore env p g debug s0 (insertTransactional env p g debug maxPerturb s0) :=
  insertLoop_commit_or_restore env p g debug s0 (maxPerturb + 1) 0

/-- non-vacuity: an environment whose first attempt breaks topology and whose star-split fallback
passes commits the fallback state -/
example :
    (insertTransactional (S := Nat)
      { impl := fun s _ star => .ok (if star then s + 10 else s + 1, false),
        relocates := fun _ => true, runCheck := fun _ s => s ≥ 10, hasCells := fun _ => true,
        isDuplicate := fun _ _ => false, retryable := fun _ => true, dupErr := fun _ => false }
      .always .plManifold true 1 0).2 = 10 := by rfl

end DM.C02

/-! ## The cavity step (`insert_with_conflict_region` / hull extension) on the abstract complex

Model: Model/Cavity.lean — remove the cells `C`, add the cone from the new vertex `v` over the facets
`F` (`cavityInsertWith`; interior instance `cavityInsert` with `F = cavityBoundary C`).  All
theorems hold for every cell list (no bound on size or dimension).  Standing hypotheses, stated
where they are used: cells / facets are sorted duplicate-free lists (`Pairwise (· < ·)`),
`cells.Nodup`, `C ⊆ cells`, `v` fresh (`∀ c ∈ cells, v ∉ c`).

 * §c1 `cavity_mem`, `cavity_new_contains_v`
 * §c2 `cavity_count`
 * §c3 `cavity_vertex_kept_iff`, `cavity_swallowed_vertex_isolated` (the isolated-vertex situation)
 * §c4 `cavity_star_of_v`, `cavity_star_eq`, `cavity_link_eq` (the link of the new vertex is `F`)
 * §c5 facet degrees: `cavity_facet_degree`, `cavity_facet_degree_le_two(_with)`,
       `cavity_ridge_degree(_le_two)`
 * §c6 `cavityStepProblem_none_iff` (what the executable check tests, as propositions),
       `cavityStepProblem_none_sound` (it certifies a cavity step), `cavityStepProblem_complete`
       (the list `cavityInsertWith pre C F v` of every legal cavity / hull-extension step passes it)
 * §c7 non-vacuity: concrete steps, evaluated by the kernel
The step is an instance of `dropAdd` (Lemmas/CellsAux.lean); its general lemmas (membership, facet
degrees for general `F`) are in Lemmas/CavityAux.lean.  Core only.
-/
namespace DM.C02
open DM

/-! ### §c1 membership -/

theorem cavity_mem (cells C F : List (List Nat)) (v : Nat) (x : List Nat) :
    x ∈ cavityInsertWith cells C F v ↔ (x ∈ cells ∧ x ∉ C) ∨ ∃ f ∈ F, x = coneCell v f :=
  mem_cavityInsertWith

theorem cavity_new_contains_v (v : Nat) (f : List Nat) : v ∈ coneCell v f := self_mem_coneCell v f

/-! ### §c2 cell count -/

theorem cavity_count {cells C F : List (List Nat)} {v : Nat} (hnd : cells.Nodup) (hC : C.Nodup)
    (hsub : ∀ c ∈ C, c ∈ cells) (hF : F.Nodup) (hFs : ∀ f ∈ F, f.Pairwise (· < ·))
    (hfresh : ∀ c ∈ cells, v ∉ c) :
    (cavityInsertWith cells C F v).length = cells.length - C.length + F.length ∧
    (cavityInsertWith cells C F v).Nodup := by
  refine ⟨?_, cavityInsertWith_nodup C hnd hF hFs hfresh⟩
  rw [cavityInsertWith, List.length_append, List.length_map, length_filter_not_contains hnd hC hsub]

/-! ### §c3 which old vertices survive -/

theorem cavity_vertex_kept_iff (cells C F : List (List Nat)) {u v : Nat} (huv : u ≠ v) :
    (∃ x ∈ cavityInsertWith cells C F v, u ∈ x) ↔
      (∃ c ∈ cells, c ∉ C ∧ u ∈ c) ∨ (∃ f ∈ F, u ∈ f) := by
  constructor
  · rintro ⟨x, hx, hu⟩
    rcases mem_cavityInsertWith.1 hx with ⟨h1, h2⟩ | ⟨f, hf, rfl⟩
    · exact Or.inl ⟨x, h1, h2, hu⟩
    · exact Or.inr ⟨f, hf, (mem_coneCell.1 hu).resolve_left huv⟩
  · rintro (⟨c, h1, h2, hu⟩ | ⟨f, hf, hu⟩)
    · exact ⟨c, mem_cavityInsertWith.2 (Or.inl ⟨h1, h2⟩), hu⟩
    · exact ⟨_, mem_cavityInsertWith.2 (Or.inr ⟨f, hf, rfl⟩), mem_coneCell.2 (Or.inr hu)⟩

/-- **isolated vertex after insertion**: if the removed region swallows the whole star of an old
vertex `u` and `u` is on no coned facet, then `u` is in no cell afterwards -/
theorem cavity_swallowed_vertex_isolated (cells C F : List (List Nat)) {u v : Nat} (huv : u ≠ v)
    (hstar : ∀ c ∈ cells, u ∈ c → c ∈ C) (hF : ∀ f ∈ F, u ∉ f) :
    ∀ x ∈ cavityInsertWith cells C F v, u ∉ x := by
  intro x hx hu
  rcases (cavity_vertex_kept_iff cells C F huv).1 ⟨x, hx, hu⟩ with ⟨c, h1, h2, h3⟩ | ⟨f, hf, h⟩
  · exact h2 (hstar c h1 h3)
  · exact hF f hf h

theorem cavity_swallowed_vertex_not_in_vertexSet (cells C F : List (List Nat)) {u v : Nat}
    (huv : u ≠ v) (hstar : ∀ c ∈ cells, u ∈ c → c ∈ C) (hF : ∀ f ∈ F, u ∉ f) :
    u ∉ vertexSet (cavityInsertWith cells C F v) :=
  not_mem_vertexSet.2 (cavity_swallowed_vertex_isolated cells C F huv hstar hF)

theorem cavity_vertex_survives {cells C : List (List Nat)} (F : List (List Nat)) (v : Nat) {u : Nat}
    {c : List Nat} (hc : c ∈ cells) (hcC : c ∉ C) (hu : u ∈ c) :
    u ∈ vertexSet (cavityInsertWith cells C F v) :=
  mem_vertexSet.2 ⟨c, mem_cavityInsertWith.2 (Or.inl ⟨hc, hcC⟩), hu⟩

/-! ### §c4 the star and the link of the new vertex -/

theorem cavity_star_eq {cells : List (List Nat)} (C F : List (List Nat)) {v : Nat}
    (hfresh : ∀ c ∈ cells, v ∉ c) :
    starOf (cavityInsertWith cells C F v) v = F.map (coneCell v) := by
  -- the star: the cells satisfying `(·.contains v)`, which no old cell does and every cone cell does
  rw [cavityInsertWith_eq_dropAdd, starOf]
  exact filter_dropAdd_added _ (fun c hc => by simpa using hfresh c hc) fun b hb => by
    simpa using mem_of_mem_map_coneCell hb

theorem cavity_star_of_v {cells : List (List Nat)} (C F : List (List Nat)) {v : Nat}
    (hfresh : ∀ c ∈ cells, v ∉ c) (x : List Nat) :
    (x ∈ cavityInsertWith cells C F v ∧ v ∈ x) ↔ ∃ f ∈ F, x = coneCell v f := by
  rw [← mem_starOf, cavity_star_eq C F hfresh, List.mem_map]
  exact exists_congr fun f => and_congr_right fun _ => eq_comm

theorem cavity_link_eq {cells F : List (List Nat)} (C : List (List Nat)) {v : Nat}
    (hfresh : ∀ c ∈ cells, v ∉ c) (hFs : ∀ f ∈ F, f.Pairwise (· < ·)) (hvF : ∀ f ∈ F, v ∉ f) :
    linkOf (cavityInsertWith cells C F v) v = F := by
  rw [linkOf, cavity_star_eq C F hfresh, map_without_coneCell hFs hvF]

theorem cavity_link_interior {cells C : List (List Nat)} {v : Nat}
    (hs : ∀ c ∈ cells, c.Pairwise (· < ·)) (hsub : ∀ c ∈ C, c ∈ cells)
    (hfresh : ∀ c ∈ cells, v ∉ c) : linkOf (cavityInsert cells C v) v = cavityBoundary C := by
  obtain ⟨hFs, hvF⟩ := cavityBoundary_sub_ok hs hsub hfresh
  exact cavity_link_eq C hfresh hFs hvF

/-! ### §c5 facet degrees (general `F`: `facetCount_step_old`, `facetCount_step_cone` in
Lemmas/CavityAux.lean) -/

theorem cavity_facet_degree {cells C : List (List Nat)} {v : Nat} (hnd : cells.Nodup)
    (hs : ∀ c ∈ cells, c.Pairwise (· < ·)) (hC : C.Nodup) (hsub : ∀ c ∈ C, c ∈ cells)
    (hfresh : ∀ c ∈ cells, v ∉ c) {f : List Nat} (hvf : v ∉ f) :
    facetCount (cavityInsert cells C v) f =
      facetCount cells f - facetCount C f + (if f ∈ cavityBoundary C then 1 else 0) := by
  obtain ⟨hFs, hvF⟩ := cavityBoundary_sub_ok hs hsub hfresh
  exact facetCount_step_old hnd hC hsub (cavityBoundary_nodup C) hFs hvF hvf

/-- general `F` (interior or hull extension): if every coned facet is a boundary facet of the
removed region or has degree ≤ 1 before (a hull facet), facets not containing `v` keep degree ≤ 2 -/
theorem cavity_facet_degree_le_two_with {cells C F : List (List Nat)} {v : Nat} (hnd : cells.Nodup)
    (hC : C.Nodup) (hsub : ∀ c ∈ C, c ∈ cells) (hF : F.Nodup)
    (hFs : ∀ f ∈ F, f.Pairwise (· < ·)) (hvF : ∀ f ∈ F, v ∉ f)
    (hFok : ∀ f ∈ F, f ∈ cavityBoundary C ∨ facetCount cells f ≤ 1)
    (h2 : ∀ f, facetCount cells f ≤ 2) {f : List Nat} (hvf : v ∉ f) :
    facetCount (cavityInsertWith cells C F v) f ≤ 2 := by
  rw [facetCount_step_old hnd hC hsub hF hFs hvF hvf]
  split
  · -- coned: `f` is a boundary facet of the removed region (degree 1 in `C`) or a hull facet
    -- (degree ≤ 1 before), so `d - k + 1 ≤ 2` for `k ≤ d ≤ 2`
    have := h2 f
    rcases (hFok f ‹_›).imp_left mem_cavityBoundary.1 with h | h <;> omega
  · exact Nat.le_trans (Nat.sub_le _ _) (h2 f)

theorem cavity_facet_degree_le_two {cells C : List (List Nat)} {v : Nat} (hnd : cells.Nodup)
    (hs : ∀ c ∈ cells, c.Pairwise (· < ·)) (hC : C.Nodup) (hsub : ∀ c ∈ C, c ∈ cells)
    (hfresh : ∀ c ∈ cells, v ∉ c) (h2 : ∀ f, facetCount cells f ≤ 2) {f : List Nat}
    (hvf : v ∉ f) : facetCount (cavityInsert cells C v) f ≤ 2 := by
  obtain ⟨hFs, hvF⟩ := cavityBoundary_sub_ok hs hsub hfresh
  exact cavity_facet_degree_le_two_with hnd hC hsub (cavityBoundary_nodup C) hFs hvF
    (fun _ hf => Or.inl hf) h2 hvf

theorem cavity_ridge_degree {cells F : List (List Nat)} (C : List (List Nat)) {v : Nat}
    (hfresh : ∀ c ∈ cells, v ∉ c) (hFs : ∀ f ∈ F, f.Pairwise (· < ·)) (hvF : ∀ f ∈ F, v ∉ f)
    {r : List Nat} (hr : r.Pairwise (· ≤ ·)) :
    facetCount (cavityInsertWith cells C F v) (coneCell v r) = ridgeCount F r :=
  facetCount_step_cone C hfresh hFs hvF hr

theorem cavity_ridge_degree_le_two {cells F : List (List Nat)} (C : List (List Nat)) {v : Nat}
    (hfresh : ∀ c ∈ cells, v ∉ c) (hFs : ∀ f ∈ F, f.Pairwise (· < ·)) (hvF : ∀ f ∈ F, v ∉ f)
    (h2 : ∀ r, ridgeCount F r ≤ 2) {r : List Nat} (hr : r.Pairwise (· ≤ ·)) :
    facetCount (cavityInsertWith cells C F v) (coneCell v r) ≤ 2 := by
  rw [cavity_ridge_degree C hfresh hFs hvF hr]
  exact h2 r

/-! ### §c6 the executable step check -/

/-- what `cavityStepProblem pre post v = none` checks, in `Prop` form; `C = stepRemoved pre post`
(`pre \ post`), `N = stepCreated pre post` (`post \ pre`), `L = stepLink pre post v` -/
structure StepChecks (pre post : List (List Nat)) (v : Nat) : Prop where
  fresh : ∀ c ∈ pre, v ∉ c
  created : stepCreated pre post ≠ []
  new_contains : ∀ c ∈ stepCreated pre post, v ∈ c
  link_nodup : (stepLink pre post v).Nodup
  boundary_covered : ∀ f ∈ cavityBoundary (stepRemoved pre post),
    f ∈ stepLink pre post v ∨ facetCount pre f = 1
  link_justified : ∀ f ∈ stepLink pre post v, f ∈ cavityBoundary (stepRemoved pre post) ∨
    (facetCount pre f = 1 ∧ facetCount (stepRemoved pre post) f = 0)
  post_sub : ∀ x ∈ post,
    x ∈ cavityInsertWith pre (stepRemoved pre post) (stepLink pre post v) v
  sub_post : ∀ x ∈ cavityInsertWith pre (stepRemoved pre post) (stepLink pre post v) v, x ∈ post

theorem cavityStepProblem_none_iff (pre post : List (List Nat)) (v : Nat) :
    cavityStepProblem pre post v = none ↔ StepChecks pre post v := by
  unfold cavityStepProblem
  -- the chain of `if`s becomes a conjunction, each Boolean test its proposition
  simp only [ite_some_eq_none, Bool.not_eq_true', Bool.not_eq_false, List.all_eq_true,
    List.any_eq_true, Bool.or_eq_true, Bool.and_eq_true, beq_iff_eq, List.contains_iff_mem,
    List.isEmpty_iff, nodupB_iff, not_exists, not_and]
  exact ⟨fun ⟨h1, h2, h3, h4, h5, h6, h7, _⟩ => ⟨h1, h2, h3, h4, h5, h6, h7.1, h7.2⟩,
    fun k => ⟨k.fresh, k.created, k.new_contains, k.link_nodup, k.boundary_covered,
      k.link_justified, ⟨k.post_sub, k.sub_post⟩, trivial⟩⟩

/-- what a legal cavity / hull-extension step from `pre` to `post` with removed region `C` and
coned facets `F` is -/
structure CavityStepSpec (pre post : List (List Nat)) (v : Nat) (C F : List (List Nat)) : Prop where
  removed_sub : ∀ c ∈ C, c ∈ pre
  removed_gone : ∀ c ∈ C, c ∉ post
  fresh : ∀ c ∈ pre, v ∉ c
  created : F ≠ []
  new_contains : ∀ x ∈ post, x ∉ pre → v ∈ x
  link_nodup : F.Nodup
  link_fresh : ∀ f ∈ F, v ∉ f
  boundary_covered : ∀ f ∈ cavityBoundary C, f ∈ F ∨ facetCount pre f = 1
  link_justified : ∀ f ∈ F, f ∈ cavityBoundary C ∨ (facetCount pre f = 1 ∧ facetCount C f = 0)
  same_cells : ∀ x, x ∈ post ↔ x ∈ cavityInsertWith pre C F v

theorem cavityStepProblem_none_spec {pre post : List (List Nat)} {v : Nat}
    (h : cavityStepProblem pre post v = none) :
    CavityStepSpec pre post v (stepRemoved pre post) (stepLink pre post v) := by
  have k := (cavityStepProblem_none_iff pre post v).1 h
  refine ⟨fun c hc => (mem_stepRemoved.1 hc).1, fun c hc => (mem_stepRemoved.1 hc).2, k.fresh, ?_,
    fun x hx hn => k.new_contains x (mem_stepCreated.2 ⟨hx, hn⟩), k.link_nodup, ?_,
    k.boundary_covered, k.link_justified, fun x => ⟨k.post_sub x, k.sub_post x⟩⟩
  · exact fun e => k.created (List.map_eq_nil_iff.1 e)
  · intro f hf
    obtain ⟨c, _, rfl⟩ := List.mem_map.1 hf
    exact not_mem_without_self c v

/-- **soundness of the executable check**: a step that passes is a cavity step — there are a
removed region `C ⊆ pre` and facets `F` such that `post` is, as a set of cells, the cavity
insertion of `v` into `pre`; every new cell contains `v`, no old cell does, and the coned facets are
boundary facets of `C` or hull facets of kept cells -/
theorem cavityStepProblem_none_sound {pre post : List (List Nat)} {v : Nat}
    (h : cavityStepProblem pre post v = none) :
    ∃ C F, (∀ c ∈ C, c ∈ pre) ∧
      (∀ x, x ∈ post ↔ x ∈ cavityInsertWith pre C F v) ∧
      (∀ x ∈ post, x ∉ pre → v ∈ x) ∧ (∀ c ∈ pre, v ∉ c) ∧ F ≠ [] ∧ F.Nodup ∧
      (∀ f ∈ cavityBoundary C, f ∈ F ∨ facetCount pre f = 1) ∧
      (∀ f ∈ F, f ∈ cavityBoundary C ∨ (facetCount pre f = 1 ∧ facetCount C f = 0)) := by
  have k := cavityStepProblem_none_spec h
  exact ⟨_, _, k.removed_sub, k.same_cells, k.new_contains, k.fresh, k.created, k.link_nodup,
    k.boundary_covered, k.link_justified⟩

/-- end to end: a step that passes the check keeps every facet not containing `v` at degree ≤ 2 -/
theorem cavityStep_facet_degree_le_two {pre post : List (List Nat)} {v : Nat}
    (h : cavityStepProblem pre post v = none) (hpre : pre.Nodup) (hpost : post.Nodup)
    (hs : ∀ c ∈ post, c.Pairwise (· < ·)) (h2 : ∀ f, facetCount pre f ≤ 2) {f : List Nat}
    (hvf : v ∉ f) : facetCount post f ≤ 2 := by
  have k := cavityStepProblem_none_spec h
  have hC : (stepRemoved pre post).Nodup := List.Nodup.sublist List.filter_sublist hpre
  have hLs : ∀ g ∈ stepLink pre post v, g.Pairwise (· < ·) := by
    intro g hg
    obtain ⟨c, hc, rfl⟩ := List.mem_map.1 hg
    exact (hs c (mem_stepCreated.1 hc).1).sublist (without_sublist c v)
  have hins := cavityInsertWith_nodup (stepRemoved pre post) hpre k.link_nodup hLs k.fresh
  rw [facetCount_eq_of_mem_iff hpost hins k.same_cells f]
  refine cavity_facet_degree_le_two_with hpre hC k.removed_sub k.link_nodup hLs k.link_fresh ?_ h2 hvf
  intro g hg
  rcases k.link_justified g hg with hb | ⟨h1, _⟩
  · exact Or.inl hb
  · exact Or.inr (by omega)

/-- **completeness of the executable check**: every cavity insertion whose coned facets are
boundary facets of the removed region or hull facets of kept cells, and which cones or drops (as a
hull facet) every boundary facet of the removed region, passes the check — proved for `post` the
list `cavityInsertWith pre C F v` itself, while `CavityStepSpec` (what `cavityStepProblem_none_spec`
gives back) fixes `post` only up to its members: completeness for a reordered `post` is not proved. -/
theorem cavityStepProblem_complete {pre C F : List (List Nat)} {v : Nat} (hnd : pre.Nodup)
    (hC : C.Nodup) (hsub : ∀ c ∈ C, c ∈ pre) (hfresh : ∀ c ∈ pre, v ∉ c) (hF : F.Nodup)
    (hFne : F ≠ []) (hFs : ∀ f ∈ F, f.Pairwise (· < ·)) (hvF : ∀ f ∈ F, v ∉ f)
    (hcov : ∀ f ∈ cavityBoundary C, f ∈ F ∨ facetCount pre f = 1)
    (hjust : ∀ f ∈ F, f ∈ cavityBoundary C ∨ (facetCount pre f = 1 ∧ facetCount C f = 0)) :
    cavityStepProblem pre (cavityInsertWith pre C F v) v = none := by
  have hnew : ∀ b ∈ F.map (coneCell v), b ∉ pre := fun b hb hc =>
    hfresh _ hc (mem_of_mem_map_coneCell hb)
  -- the check reconstructs `C` up to order, the cone cells and `F`, hence the same insertion
  have e1 : stepRemoved pre (cavityInsertWith pre C F v) = pre.filter C.contains :=
    stepRemoved_dropAdd _ hnew
  have e2 : stepCreated pre (cavityInsertWith pre C F v) = F.map (coneCell v) :=
    stepCreated_dropAdd _ hnew
  have e3 : stepLink pre (cavityInsertWith pre C F v) v = F := by
    rw [stepLink, e2, map_without_coneCell hFs hvF]
  have hins : cavityInsertWith pre (pre.filter C.contains) F v = cavityInsertWith pre C F v :=
    dropAdd_filter_contains pre _ _
  have hdeg : ∀ f, facetCount (pre.filter C.contains) f = facetCount C f :=
    facetCount_perm (filter_contains_perm hnd hC hsub)
  have hB : ∀ f, f ∈ cavityBoundary (pre.filter C.contains) ↔ f ∈ cavityBoundary C := fun f => by
    rw [mem_cavityBoundary, mem_cavityBoundary, hdeg]
  rw [cavityStepProblem_none_iff]
  refine ⟨hfresh, ?_, ?_, e3.symm ▸ hF, ?_, ?_, ?_, ?_⟩
  · rw [e2]
    exact fun e => hFne (List.map_eq_nil_iff.1 e)
  · rw [e2]
    exact fun c hc => mem_of_mem_map_coneCell hc
  · rw [e1, e3]
    exact fun f hf => hcov f ((hB f).1 hf)
  · rw [e1, e3]
    exact fun f hf => (hjust f hf).imp (hB f).2 fun h => ⟨h.1, (hdeg f).trans h.2⟩
  · rw [e1, e3, hins]
    exact fun x hx => hx
  · rw [e1, e3, hins]
    exact fun x hx => hx

/-- the interior case, for any listing `F` of the boundary facets of the removed region -/
theorem cavityStepProblem_complete_boundary {pre C F : List (List Nat)} {v : Nat} (hnd : pre.Nodup)
    (hC : C.Nodup) (hCs : ∀ c ∈ C, c.Pairwise (· < ·)) (hsub : ∀ c ∈ C, c ∈ pre)
    (hfresh : ∀ c ∈ pre, v ∉ c) (hF : F.Nodup) (hFne : F ≠ [])
    (hFB : ∀ f, f ∈ F ↔ f ∈ cavityBoundary C) :
    cavityStepProblem pre (cavityInsertWith pre C F v) v = none :=
  cavityStepProblem_complete hnd hC hsub hfresh hF hFne
    (fun f hf => cavityBoundary_lt_sorted hCs f ((hFB f).1 hf))
    (fun f hf => cavityBoundary_fresh (fun c hc => hfresh c (hsub c hc)) f ((hFB f).1 hf))
    (fun f hf => Or.inl ((hFB f).2 hf)) (fun f hf => Or.inl ((hFB f).1 hf))

theorem cavityStepProblem_complete_interior {pre C : List (List Nat)} {v : Nat} (hnd : pre.Nodup)
    (hs : ∀ c ∈ pre, c.Pairwise (· < ·)) (hC : C.Nodup) (hsub : ∀ c ∈ C, c ∈ pre)
    (hfresh : ∀ c ∈ pre, v ∉ c) (hB : cavityBoundary C ≠ []) :
    cavityStepProblem pre (cavityInsert pre C v) v = none :=
  cavityStepProblem_complete_boundary hnd hC (fun c hc => hs c (hsub c hc)) hsub hfresh
    (cavityBoundary_nodup C) hB fun _ => Iff.rfl

/-! ### §c7 non-vacuity -/

/-- 2-D, interior point: `4` inserted into the two triangles `[0,1,2]`, `[1,2,3]`, both in conflict:
four cone cells over the four boundary edges; the check accepts the step; the link of `4` is the
boundary of the removed region -/
theorem ex_cavity_2d :
    cavityBoundary [[0, 1, 2], [1, 2, 3]] = [[0, 2], [0, 1], [2, 3], [1, 3]] ∧
    cavityInsert [[0, 1, 2], [1, 2, 3]] [[0, 1, 2], [1, 2, 3]] 4 =
      [[0, 2, 4], [0, 1, 4], [2, 3, 4], [1, 3, 4]] ∧
    cavityStepProblem [[0, 1, 2], [1, 2, 3]] [[0, 2, 4], [0, 1, 4], [2, 3, 4], [1, 3, 4]] 4 = none ∧
    linkOf [[0, 2, 4], [0, 1, 4], [2, 3, 4], [1, 3, 4]] 4 = [[0, 2], [0, 1], [2, 3], [1, 3]] := by
  decide +kernel

/-- swallowed vertex: the fan of three triangles around `9` inside `[0,1,2]`; the conflict region
is the whole star of `9`, so `9` is in no cell afterwards although the step is a legal cavity step
(instance of `cavity_swallowed_vertex_isolated`) -/
theorem ex_cavity_swallowed :
    cavityInsert [[0, 1, 9], [1, 2, 9], [0, 2, 9]] [[0, 1, 9], [1, 2, 9], [0, 2, 9]] 10 =
      [[0, 1, 10], [1, 2, 10], [0, 2, 10]] ∧
    cavityStepProblem [[0, 1, 9], [1, 2, 9], [0, 2, 9]] [[0, 1, 10], [1, 2, 10], [0, 2, 10]] 10
      = none ∧
    (∀ x ∈ cavityInsert [[0, 1, 9], [1, 2, 9], [0, 2, 9]] [[0, 1, 9], [1, 2, 9], [0, 2, 9]] 10,
      9 ∉ x) ∧
    9 ∉ vertexSet (cavityInsert [[0, 1, 9], [1, 2, 9], [0, 2, 9]] [[0, 1, 9], [1, 2, 9], [0, 2, 9]] 10)
      := by
  decide +kernel

/-- the same conclusion obtained from the general theorem -/
example : ∀ x ∈ cavityInsert [[0, 1, 9], [1, 2, 9], [0, 2, 9]] [[0, 1, 9], [1, 2, 9], [0, 2, 9]] 10,
    9 ∉ x :=
  cavity_swallowed_vertex_isolated _ _ _ (by decide +kernel) (by decide +kernel) (by decide +kernel)

/-- hull extension: `3` outside `[0,1,2]` seeing the edge `[1,2]`: nothing removed, one cone -/
theorem ex_cavity_hull :
    cavityInsertWith [[0, 1, 2]] [] [[1, 2]] 3 = [[0, 1, 2], [1, 2, 3]] ∧
    cavityStepProblem [[0, 1, 2]] [[0, 1, 2], [1, 2, 3]] 3 = none := by
  decide +kernel

/-- hull extension with a non-empty conflict region: `4` outside, in conflict with `[1,2,3]`, sees
the hull edge `[2,3]`: the boundary edge `[2,3]` of the removed region disappears, `[1,2]` and
`[1,3]` are coned -/
theorem ex_cavity_hull_conflict :
    cavityStepProblem [[0, 1, 2], [1, 2, 3]] [[0, 1, 2], [1, 2, 4], [1, 3, 4]] 4 = none := by
  decide +kernel

/-- 3-D interior: two tetrahedra in conflict, a third kept; degrees of the facets are as
`cavity_facet_degree` says -/
theorem ex_cavity_3d :
    cavityInsert [[0, 1, 2, 3], [1, 2, 3, 4], [0, 1, 2, 5]] [[0, 1, 2, 3], [1, 2, 3, 4]] 7 =
      [[0, 1, 2, 5], [0, 2, 3, 7], [0, 1, 3, 7], [0, 1, 2, 7], [2, 3, 4, 7], [1, 3, 4, 7],
        [1, 2, 4, 7]] ∧
    cavityStepProblem [[0, 1, 2, 3], [1, 2, 3, 4], [0, 1, 2, 5]]
      [[0, 1, 2, 5], [0, 2, 3, 7], [0, 1, 3, 7], [0, 1, 2, 7], [2, 3, 4, 7], [1, 3, 4, 7],
        [1, 2, 4, 7]] 7 = none := by
  decide +kernel

/-- negative: the cell `[1,2,3]` is dropped but its interior boundary edge `[1,2]` is not coned -/
theorem ex_cavity_bad_uncovered :
    (cavityStepProblem [[0, 1, 2], [1, 2, 3]] [[0, 1, 2], [1, 3, 4], [2, 3, 4]] 4).isSome = true ∧
    (cavityStepProblem [[0, 1, 2], [1, 2, 3]] [[0, 1, 2]] 4).isSome = true := by
  decide +kernel

/-- negative: a cone over an interior edge of kept cells (`[1,2]` has degree 2 and nothing was
removed); a created cell without the new vertex; a vertex that is not new; nothing created -/
theorem ex_cavity_bad_other :
    (cavityStepProblem [[0, 1, 2], [1, 2, 3]] [[0, 1, 2], [1, 2, 3], [1, 2, 4]] 4).isSome = true ∧
    (cavityStepProblem [[0, 1, 2]] [[0, 1, 2], [1, 2, 3], [0, 1, 5]] 3).isSome = true ∧
    (cavityStepProblem [[0, 1, 2]] [[0, 1, 2], [1, 2, 3]] 2).isSome = true ∧
    (cavityStepProblem [[0, 1, 2]] [[0, 1, 2]] 3).isSome = true := by
  decide +kernel

end DM.C02
