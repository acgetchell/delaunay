/-
Props/C09.lean — property theorems for C09 (the duplicate-coordinate cache never changes the
answer of the duplicate check).

Model: `Model/DupCache.lean` (state machine over integer coordinates, cell size = tolerance), in two
forms: `step` / `isDup`, and the keyed machine `stepK keyable` / `isDupK keyable` in which some
coordinates cannot be put into a bucket.  Everything about histories is proved for the keyed machine,
for EVERY predicate `keyable`; the original machine is the instance `keyable = fun _ => true`
(`runK_all_keyable`), and its theorems (`reachable_*`) are read off.

 * `floor_close`, `grid_complete`: a point within tolerance of `p` lies in the 3^D neighbourhood of
   `p`'s bucket (so a grid that only inspects that neighbourhood misses nothing);
 * `gridDup_sound`, `isDup_sound`, `never_refused_for_removed(K)`: a grid hit is a hit on a LIVE
   vertex within tolerance (stale entries of removed vertices resolve to nothing), in every state;
   `consistent_query_eq_scan`: in a consistent state with unique keys the grid query and the linear
   scan agree on every query of the right dimension;
 * `stepK_verts`: what an operation can do to the live vertices (nothing, one more under a fresh
   key, a filter, a renumbering); `stepK_keysUnique`, `stepK_vertsDim`, `stepK_coordSep` (separation,
   as `CoordSep`, a `Pairwise` on the list of coordinates) follow from it, `stepK_consistent` (the
   grid invariant `ConsistentK`: no grid, or every live vertex is in the grid and keyable) is by
   operation: the Edit-API operations drop the grid — that is the fix;
 * `isDupK_eq`: the keyed query is `isDup` at a keyable point and the scan elsewhere;
 * `Inv` bundles what makes the cache transparent; `Inv.query_eq_scan`; `Inv.stepK`, and from any
   state that has it `inv_runK`, `pairSep_runK`; from a grid-less start (`Inv.init`):
   `reachableK_query_eq_scan`, `reachableK_grid_all_keyable`, `reachableK_pairSep`: in every reachable
   state the duplicate check with its two conservative fallbacks is the scan, and checked insertions
   keep the live vertices pairwise separated (the Edit API `editInsert` deliberately does not check:
   `editInsert_breaks_pairSep`);
 * `isDupK_all_keyable`, `stepK_all_keyable`, `runK_all_keyable`, then `reachable_consistent`,
   `reachable_query_eq_scan`, `reachable_pairSep` for the original machine;
 * `Op.rebuild` (the Tds is replaced, every live vertex gets a fresh key, the grid is re-keyed —
   fix F22): `scanDup_rebuild`, `rebuild_idx_eq_verts` (after a rebuild the grid holds exactly the
   live vertices, no stale entry survives);
 * negative results, by evaluation of concrete histories: `buggy_witness` / `fixed_witness` (pre-fix
   Edit-API operations keep the grid and the cache misses a duplicate), `stale_rekey_witness` (a
   rebuild that leaves the grid entries as they are), the two-site defect of the un-keyable handling
   (`stepW`, `isDupSkip`): `skip_witness`, `skip_inserts_duplicate`, `skip_insert_alone_ok`,
   `skip_query_alone_ok`, and the boundary witnesses showing that each site alone is not correct in
   general either;
 * non-vacuity examples at the end of the two witness sections.
-/
import DelaunayModel.Lemmas.DupAux
namespace DM.C09

open DM.DupCache DM.DupAux

/-! ### geometry of the grid -/

/-- 1-D: two coordinates closer than the cell size lie in the same or in adjacent cells -/
theorem floor_close {x y c : Int} (hc : 0 < c) (h : (x - y) * (x - y) < c * c) :
    x / c - y / c ≤ 1 ∧ y / c - x / c ≤ 1 :=
  DM.DupAux.floor_close hc h

/-- a point within tolerance of `p` lies in the 3^D bucket neighbourhood of `p` -/
theorem grid_complete {c : Int} (hc : 0 < c) (p q : Pt) (hlen : p.length = q.length)
    (h : dist2 p q < c * c) : nearBucket (bucket c q) (bucket c p) = true :=
  DM.DupAux.grid_complete hc p q hlen h

theorem dist2_comm (p q : Pt) : dist2 p q = dist2 q p := by
  rw [dist2, List.zipWith_comm_of_comm sq_sub_comm, dist2]

/-! ### the grid query against the scan, in one state -/

/-- all live vertices have dimension `d` -/
def VertsDim (d : Nat) (s : St) : Prop := ∀ v ∈ s.verts, v.2.length = d

theorem scanDup_iff {s : St} {q : Pt} :
    scanDup s q = true ↔ ∃ v ∈ s.verts, dist2 v.2 q < s.c * s.c := by
  simp only [scanDup, List.any_eq_true, decide_eq_true_eq]

/-- a grid hit is a hit of the scan: an entry counts only if its key resolves to a live vertex, so
stale entries are never reported -/
theorem gridDup_sound {s : St} {es : List (Nat × Pt)} {q : Pt} (h : gridDup s es q = true) :
    scanDup s q = true := by
  simp only [gridDup, List.any_eq_true, Bool.and_eq_true] at h
  obtain ⟨e, _, _, hm⟩ := h
  split at hm
  · cases hm
  · rename_i p hl
    exact scanDup_iff.2 ⟨(e.1, p), mem_of_lookup_eq_some hl, of_decide_eq_true hm⟩

theorem isDup_sound {s : St} {q : Pt} (h : isDup s q = true) : scanDup s q = true := by
  unfold isDup at h
  split at h
  · exact gridDup_sound h
  · exact h

/-- a point is never reported as a duplicate because of a vertex that is gone -/
theorem never_refused_for_removed (s : St) (q : Pt) (h : isDup s q = true) :
    ∃ v ∈ s.verts, dist2 v.2 q < s.c * s.c :=
  scanDup_iff.1 (isDup_sound h)

theorem consistent_query_eq_scan (s : St) (d : Nat) (q : Pt) (hc : 0 < s.c) (hku : KeysUnique s)
    (hcons : Consistent s) (hdim : ∀ v ∈ s.verts, v.2.length = d) (hq : q.length = d) :
    isDup s q = scanDup s q := by
  obtain ⟨c, verts, idx⟩ := s
  cases idx with
  | none => rfl
  | some es =>
    refine Bool.eq_iff_iff.2 ⟨gridDup_sound (es := es), fun h => ?_⟩
    -- a live vertex within tolerance has its entry, in a neighbouring bucket, and its key resolves
    obtain ⟨v, hv, hd⟩ := scanDup_iff.1 h
    simp only [isDup, gridDup, List.any_eq_true, Bool.and_eq_true]
    refine ⟨v, hcons v hv, grid_complete hc v.2 q (by rw [hdim v hv, hq]) hd, ?_⟩
    rw [(lookup_eq_some_iff_mem hku (i := v.1) (b := v.2)).2 hv]
    exact decide_eq_true hd

theorem insert_refuses_duplicates (s : St) (k : Nat) (p : Pt) (hscan : scanDup s p = true)
    (heq : isDup s p = scanDup s p) : (step s (.insert k p)).verts = s.verts := by
  simp [step, heq, hscan]

/-- the points carried by an operation have dimension `d` -/
def OpDim (d : Nat) : Op → Prop
  | .insert _ p => p.length = d
  | .editInsert _ p => p.length = d
  | _ => True

/-- live vertices are pairwise at least the tolerance apart -/
def PairSep (s : St) : Prop :=
  ∀ a ∈ s.verts, ∀ b ∈ s.verts, a ≠ b → ¬ (dist2 a.2 b.2 < s.c * s.c)

/-- the operation is not the unchecked Edit-API insertion -/
def Checked : Op → Prop
  | .editInsert _ _ => False
  | _ => True

theorem step_dropIndex_pairSep (s : St) (h : PairSep s) : PairSep (step s .dropIndex) := h

theorem step_clone_pairSep (s : St) (h : PairSep s) : PairSep (step s .clone) := h

/-- the linear scan only sees coordinates, and `rekey` keeps them in order, so renumbering does not
change its answer -/
theorem scanDup_rebuild (s : St) (b : Nat) (q : Pt) :
    scanDup (step s (.rebuild b)) q = scanDup s q := by
  obtain ⟨c, verts, idx⟩ := s
  have h (vs : List (Nat × Pt)) : vs.any (fun v => decide (dist2 v.2 q < c * c))
      = (vs.map (·.2)).any (fun p => decide (dist2 p q < c * c)) := by
    rw [List.any_map]; rfl
  show (rekey b verts).any (fun v => decide (dist2 v.2 q < c * c))
    = verts.any (fun v => decide (dist2 v.2 q < c * c))
  rw [h, h, rekey_map_snd]

/-- after a rebuild the grid (if any) holds exactly the live vertices: no stale entry survives -/
theorem rebuild_idx_eq_verts (s : St) (b : Nat) (es : List (Nat × Pt))
    (h : (step s (.rebuild b)).idx = some es) : es = (step s (.rebuild b)).verts := by
  cases hi : s.idx <;> simp [step, hi] at h
  exact h.symm

/-! ## The keyed machine: coordinates that cannot be keyed (`DM.DupCache.Keyed`)

The general theorems of this part hold for EVERY predicate `keyable : Pt → Bool`. -/

open DM.DupCache.Keyed

theorem isDupK_eq (keyable : Pt → Bool) (s : St) (q : Pt) :
    isDupK keyable s q = if keyable q then isDup s q else scanDup s q := by
  unfold isDupK isDup
  split
  · rfl
  · exact (ite_self _).symm

/-! ### what an operation does to the live vertices -/

theorem stepK_c (keyable : Pt → Bool) (s : St) (op : Op) : (stepK keyable s op).c = s.c := by
  cases op with
  | seed =>
    simp only [stepK]; split
    · rfl
    · split <;> rfl
  | insert k p =>
    simp only [stepK]; split
    · rfl
    · split <;> rfl
  | editInsert k p => simp only [stepK]; split <;> rfl
  | _ => rfl

theorem fresh_key {vs : List (Nat × Pt)} {k : Nat} (h : ¬ vs.any (·.1 == k) = true) :
    k ∉ vs.map (·.1) := by
  intro hk
  obtain ⟨v, hv, rfl⟩ := List.mem_map.1 hk
  exact h (List.any_eq_true.2 ⟨v, hv, beq_self_eq_true _⟩)

/-- an operation leaves the live vertices alone, adds one under a fresh key (a checked insertion only
if the duplicate check let it through), filters them, or renumbers them -/
theorem stepK_verts (keyable : Pt → Bool) (s : St) (op : Op) :
    (stepK keyable s op).verts = s.verts ∨
    (∃ k p, (op = .insert k p ∧ isDupK keyable s p = false ∨ op = .editInsert k p) ∧
      k ∉ s.verts.map (·.1) ∧ (stepK keyable s op).verts = (k, p) :: s.verts) ∨
    (∃ f, (stepK keyable s op).verts = s.verts.filter f) ∨
    (∃ b, (stepK keyable s op).verts = rekey b s.verts) := by
  cases op with
  | seed =>
    left; simp only [stepK]; split
    · rfl
    · split <;> rfl
  | insert k p =>
    by_cases h : (isDupK keyable s p || s.verts.any (·.1 == k)) = true
    · exact .inl (congrArg St.verts (if_pos h))
    · have e : (stepK keyable s (.insert k p)).verts = (k, p) :: s.verts := by
        simp only [stepK, if_neg h]; split <;> rfl
      rw [Bool.or_eq_true, not_or, Bool.not_eq_true] at h
      exact .inr (.inl ⟨k, p, .inl ⟨rfl, h.1⟩, fresh_key h.2, e⟩)
  | editInsert k p =>
    by_cases h : s.verts.any (·.1 == k) = true
    · exact .inl (congrArg St.verts (if_pos h))
    · exact .inr (.inl ⟨k, p, .inr rfl, fresh_key h, congrArg St.verts (if_neg h)⟩)
  | remove k => exact .inr (.inr (.inl ⟨_, rfl⟩))
  | editRemove k => exact .inr (.inr (.inl ⟨_, rfl⟩))
  | dropIndex => exact .inl rfl
  | clone => exact .inl rfl
  | rebuild b => exact .inr (.inr (.inr ⟨b, rfl⟩))

theorem stepK_keysUnique (keyable : Pt → Bool) (s : St) (op : Op) (h : KeysUnique s) :
    KeysUnique (stepK keyable s op) := by
  unfold KeysUnique at *
  rcases stepK_verts keyable s op with e | ⟨k, p, _, hk, e⟩ | ⟨f, e⟩ | ⟨b, e⟩ <;> rw [e]
  · exact h
  · exact List.nodup_cons.2 ⟨hk, h⟩
  · exact h.sublist (List.filter_sublist.map _)
  · exact rekey_keys_nodup b _

theorem stepK_vertsDim (keyable : Pt → Bool) (d : Nat) (s : St) (op : Op) (hop : OpDim d op)
    (h : VertsDim d s) : VertsDim d (stepK keyable s op) := by
  unfold VertsDim at *
  rcases stepK_verts keyable s op with e | ⟨k, p, hkp, _, e⟩ | ⟨f, e⟩ | ⟨b, e⟩ <;> rw [e]
  · exact h
  · have hp : p.length = d := by rcases hkp with ⟨rfl, _⟩ | rfl <;> exact hop
    exact List.forall_mem_cons.2 ⟨hp, h⟩
  · exact fun v hv => h v (List.mem_filter.1 hv).1
  · intro v hv
    obtain ⟨w, hw, hw'⟩ := exists_of_mem_rekey hv
    exact hw' ▸ h w hw

/-! ### the grid invariant -/

theorem consistentK_consistent {keyable : Pt → Bool} {s : St} (h : ConsistentK keyable s) :
    Consistent s := by
  unfold ConsistentK Consistent at *
  split at h
  · trivial
  · exact h.1

theorem consistentK_of_idx_none {keyable : Pt → Bool} {s : St} (h : s.idx = none) :
    ConsistentK keyable s := by
  rw [ConsistentK, h]
  trivial

theorem stepK_consistent (keyable : Pt → Bool) (s : St) (op : Op) (h : ConsistentK keyable s) :
    ConsistentK keyable (stepK keyable s op) := by
  obtain ⟨c, verts, idx⟩ := s
  cases op with
  | seed =>
    cases idx with
    | some es => exact h
    | none =>
      simp only [stepK]
      split
      · exact ⟨fun v hv => hv, List.all_eq_true.1 ‹_›⟩
      · trivial
  | insert k p =>
    simp only [stepK]
    split
    · exact h
    · split
      · rename_i hk
        cases idx with
        | none => trivial
        | some es =>
          -- `(k, p)`, keyable by `hk`, goes in front of the live vertices and of the grid
          refine ⟨fun v hv => ?_, List.forall_mem_cons.2 ⟨hk, h.2⟩⟩
          rcases List.mem_cons.1 hv with rfl | hv
          · exact List.mem_cons_self
          · exact List.mem_cons_of_mem _ (h.1 v hv)
      · trivial
  | remove k =>
    cases idx with
    | none => trivial
    | some es =>
      exact ⟨fun v hv => h.1 v (List.mem_filter.1 hv).1, fun v hv => h.2 v (List.mem_filter.1 hv).1⟩
  | editInsert k p => simp only [stepK]; split <;> trivial
  | editRemove k => trivial
  | dropIndex => trivial
  | clone => exact h
  | rebuild b =>
    -- the grid (if any) is re-keyed from the rebuilt vertex set; the coordinates are unchanged, so
    -- every renumbered vertex is still keyable
    cases idx with
    | none => trivial
    | some es =>
      refine ⟨fun v hv => hv, fun v hv => ?_⟩
      obtain ⟨w, hw, hw'⟩ := exists_of_mem_rekey hv
      exact hw' ▸ h.2 w hw

theorem reachableK_consistent (keyable : Pt → Bool) (s0 : St) (ops : List Op)
    (h0 : s0.idx = none) : ConsistentK keyable (runK keyable s0 ops) :=
  List.foldlRecOn ops _ (consistentK_of_idx_none h0) fun s hs op _ => stepK_consistent keyable s op hs

theorem reachableK_grid_all_keyable (keyable : Pt → Bool) (s0 : St) (ops : List Op)
    (h0 : s0.idx = none) (es : List (Nat × Pt)) (hes : (runK keyable s0 ops).idx = some es) :
    ∀ v ∈ (runK keyable s0 ops).verts, v ∈ es ∧ keyable v.2 = true := by
  have h := reachableK_consistent keyable s0 ops h0
  simp only [ConsistentK, hes] at h
  exact fun v hv => ⟨h.1 v hv, h.2 v hv⟩

/-! ### the fallbacks make un-keyable coordinates invisible -/

/-- what makes the cache transparent for `d`-dimensional queries; every operation carrying
`d`-dimensional points keeps it, from ANY state that has it (a grid-less one in particular) -/
structure Inv (keyable : Pt → Bool) (d : Nat) (s : St) : Prop where
  c_pos : 0 < s.c
  keys : KeysUnique s
  cons : ConsistentK keyable s
  dim : VertsDim d s

theorem Inv.query_eq_scan {keyable : Pt → Bool} {d : Nat} {s : St} (h : Inv keyable d s) {q : Pt}
    (hq : q.length = d) : isDupK keyable s q = scanDup s q := by
  rw [isDupK_eq, consistent_query_eq_scan s d q h.c_pos h.keys (consistentK_consistent h.cons) h.dim hq,
    ite_self]

theorem Inv.stepK {keyable : Pt → Bool} {d : Nat} {s : St} (h : Inv keyable d s) {op : Op}
    (hop : OpDim d op) : Inv keyable d (stepK keyable s op) :=
  ⟨stepK_c keyable s op ▸ h.c_pos, stepK_keysUnique keyable s op h.keys,
    stepK_consistent keyable s op h.cons, stepK_vertsDim keyable d s op hop h.dim⟩

theorem Inv.init {keyable : Pt → Bool} {d : Nat} {s0 : St} (h0 : s0.idx = none) (hc : 0 < s0.c)
    (hku : KeysUnique s0) (hdim : VertsDim d s0) : Inv keyable d s0 :=
  ⟨hc, hku, consistentK_of_idx_none h0, hdim⟩

theorem inv_runK {keyable : Pt → Bool} {d : Nat} {s : St} (h : Inv keyable d s) {ops : List Op}
    (hops : ∀ op ∈ ops, OpDim d op) : Inv keyable d (runK keyable s ops) :=
  List.foldlRecOn ops _ h fun _ hs op hop => hs.stepK (hops op hop)

theorem reachableK_query_eq_scan (keyable : Pt → Bool) (s0 : St) (ops : List Op) (d : Nat) (q : Pt)
    (h0 : s0.idx = none) (hc : 0 < s0.c) (hku : KeysUnique s0) (hdim : VertsDim d s0)
    (hops : ∀ op ∈ ops, OpDim d op) (hq : q.length = d) :
    isDupK keyable (runK keyable s0 ops) q = scanDup (runK keyable s0 ops) q :=
  (inv_runK (Inv.init h0 hc hku hdim) hops).query_eq_scan hq

theorem never_refused_for_removedK (keyable : Pt → Bool) (s : St) (q : Pt)
    (h : isDupK keyable s q = true) : ∃ v ∈ s.verts, dist2 v.2 q < s.c * s.c := by
  rw [isDupK_eq] at h
  split at h
  · exact scanDup_iff.1 (isDup_sound h)
  · exact scanDup_iff.1 h

/-! ### checked operations keep the live vertices pairwise separated -/

/-- `PairSep` read on the list of coordinates, which an operation extends, filters or leaves alone;
under unique keys the two say the same -/
def CoordSep (s : St) : Prop := (s.verts.map (·.2)).Pairwise fun p q => ¬ dist2 p q < s.c * s.c

theorem CoordSep.pairSep {s : St} (h : CoordSep s) : PairSep s :=
  forall_ne_of_pairwise (fun p q hpq => dist2_comm p q ▸ hpq) h

theorem PairSep.coordSep {s : St} (hku : KeysUnique s) (h : PairSep s) : CoordSep s :=
  pairwise_of_forall_ne hku h

/-- all operations except `editInsert` keep the live vertices separated, provided the duplicate check
of a checked insertion answers as the scan does (which `Inv.query_eq_scan` gives) -/
theorem stepK_coordSep {keyable : Pt → Bool} {s : St} {op : Op}
    (heq : ∀ k p, op = .insert k p → isDupK keyable s p = scanDup s p) (hchk : Checked op)
    (h : CoordSep s) : CoordSep (stepK keyable s op) := by
  unfold CoordSep at *
  rw [stepK_c]
  rcases stepK_verts keyable s op with e | ⟨k, p, hkp, _, e⟩ | ⟨f, e⟩ | ⟨b, e⟩ <;> rw [e]
  · exact h
  · obtain ⟨rfl, hnd⟩ | rfl := hkp
    · -- the new vertex passed the duplicate check, which is the scan here: nothing live is near it
      rw [heq k p rfl] at hnd
      refine List.pairwise_cons.2 ⟨fun q hq hd => ?_, h⟩
      obtain ⟨v, hv, rfl⟩ := List.mem_map.1 hq
      exact Bool.false_ne_true (hnd ▸ scanDup_iff.2 ⟨v, hv, dist2_comm p v.2 ▸ hd⟩)
    · exact hchk.elim
  · exact h.sublist (List.filter_sublist.map _)
  · rwa [rekey_map_snd]

/-- where the cache is transparent, every history of checked operations (no `editInsert`) keeps the
live vertices pairwise separated; `Inv` has to travel along, so the two are carried together -/
theorem pairSep_runK {keyable : Pt → Bool} {d : Nat} {s : St} (h : Inv keyable d s)
    (hsep : PairSep s) {ops : List Op} (hops : ∀ op ∈ ops, OpDim d op)
    (hchk : ∀ op ∈ ops, Checked op) : PairSep (runK keyable s ops) :=
  (List.foldlRecOn (motive := fun s => Inv keyable d s ∧ CoordSep s) ops _
    ⟨h, hsep.coordSep h.keys⟩
    fun _ hs op hop =>
      ⟨hs.1.stepK (hops op hop),
        stepK_coordSep (fun k p e => hs.1.query_eq_scan (by subst e; exact hops _ hop))
          (hchk op hop) hs.2⟩).2.pairSep

theorem reachableK_pairSep (keyable : Pt → Bool) (s0 : St) (ops : List Op) (d : Nat)
    (h0 : s0.idx = none) (hc : 0 < s0.c) (hku : KeysUnique s0) (hdim : VertsDim d s0)
    (hops : ∀ op ∈ ops, OpDim d op) (hchk : ∀ op ∈ ops, Checked op) (hsep : PairSep s0) :
    PairSep (runK keyable s0 ops) :=
  pairSep_runK (Inv.init h0 hc hku hdim) hsep hops hchk

/-! ### the keyed machine is the original one when every point is keyable -/

theorem isDupK_all_keyable (s : St) (q : Pt) : isDupK (fun _ => true) s q = isDup s q :=
  (isDupK_eq _ s q).trans (if_pos rfl)

theorem stepK_all_keyable (s : St) (op : Op) : stepK (fun _ => true) s op = step s op := by
  cases op with
  | seed => simp only [stepK, step, List.all_eq_true, implies_true, if_true]
  | _ => rfl

theorem runK_all_keyable (s : St) (ops : List Op) : runK (fun _ => true) s ops = run s ops := by
  rw [runK, run, show stepK (fun _ => true) = step from funext fun s => funext (stepK_all_keyable s)]

theorem reachable_consistent (s0 : St) (ops : List Op) (h0 : s0.idx = none) :
    Consistent (run s0 ops) :=
  runK_all_keyable s0 ops ▸ consistentK_consistent (reachableK_consistent _ s0 ops h0)

theorem reachable_query_eq_scan (s0 : St) (ops : List Op) (d : Nat) (q : Pt)
    (h0 : s0.idx = none) (hc : 0 < s0.c) (hku : KeysUnique s0) (hdim : VertsDim d s0)
    (hops : ∀ op ∈ ops, OpDim d op) (hq : q.length = d) :
    isDup (run s0 ops) q = scanDup (run s0 ops) q := by
  rw [← runK_all_keyable, ← isDupK_all_keyable]
  exact reachableK_query_eq_scan _ s0 ops d q h0 hc hku hdim hops hq

theorem reachable_pairSep (s0 : St) (ops : List Op) (d : Nat)
    (h0 : s0.idx = none) (hc : 0 < s0.c) (hku : KeysUnique s0) (hdim : VertsDim d s0)
    (hops : ∀ op ∈ ops, OpDim d op) (hchk : ∀ op ∈ ops, Checked op) (hsep : PairSep s0) :
    PairSep (run s0 ops) :=
  runK_all_keyable s0 ops ▸ reachableK_pairSep _ s0 ops d h0 hc hku hdim hops hchk hsep

/-- `editInsert` does NOT preserve `PairSep` (the Edit API does not check duplicates) -/
theorem editInsert_breaks_pairSep :
    PairSep ⟨10, [(0, [0])], none⟩ ∧ ¬ PairSep (step ⟨10, [(0, [0])], none⟩ (.editInsert 1 [5])) := by
  refine ⟨fun _ ha _ hb hab => ?_, fun h => ?_⟩
  · -- a single live vertex
    exact absurd ((List.mem_singleton.1 ha).trans (List.mem_singleton.1 hb).symm) hab
  · -- the unchecked `(1, [5])` is within the tolerance 10 of the live `(0, [0])`
    exact h (1, [5]) (by decide +kernel) (0, [0]) (by decide +kernel) (by decide +kernel)
      (by decide +kernel)

/-! ### the pre-fix behaviour of the Edit-API operations (negative result) -/

/-- `step` before the fix: the Edit-API operations keep the grid -/
def stepBuggy (s : St) : Op → St
  | .seed => match s.idx with
    | some _ => s
    | none => { s with idx := some s.verts }
  | .insert k p =>
    if isDup s p || s.verts.any (·.1 == k) then s
    else { s with verts := (k, p) :: s.verts, idx := s.idx.map ((k, p) :: ·) }
  | .remove k => { s with verts := s.verts.filter (·.1 != k) }
  | .editInsert k p =>
    if s.verts.any (·.1 == k) then s else { s with verts := (k, p) :: s.verts, idx := s.idx }
  | .editRemove k => { s with verts := s.verts.filter (·.1 != k), idx := s.idx }
  | .dropIndex => { s with idx := none }
  | .clone => s
  | .rebuild b => let vs := rekey b s.verts; { s with verts := vs, idx := s.idx.map (fun _ => vs) }

def w0 : St := { c := 10, verts := [(0, [0])], idx := none }

/-- pre-fix: after an Edit-API insertion the grid misses the new vertex, so a point within
tolerance of it is a duplicate by scan but is NOT reported by the cache -/
theorem buggy_witness :
    let s := [Op.seed, Op.editInsert 1 [100]].foldl stepBuggy w0
    scanDup s [105] = true ∧ isDup s [105] = false := by decide +kernel

/-- pre-fix: the invariant `Consistent` is what the Edit-API insertion broke -/
theorem buggy_breaks_consistent :
    ¬ Consistent ([Op.seed, Op.editInsert 1 [100]].foldl stepBuggy w0) :=
  -- the vertex `(1, [100])` is live and has no grid entry
  fun h => absurd (h (1, [100]) List.mem_cons_self) (by decide +kernel)

/-- pre-fix: the missed duplicate is then inserted, breaking pairwise separation -/
theorem buggy_witness_inserts_duplicate :
    let s := [Op.seed, Op.editInsert 1 [100], Op.insert 2 [105]].foldl stepBuggy w0
    s.verts = [(2, [105]), (1, [100]), (0, [0])] := by decide +kernel

/-- with the real `step` the same history reports the duplicate -/
theorem fixed_witness :
    let s := run w0 [Op.seed, Op.editInsert 1 [100]]
    scanDup s [105] = true ∧ isDup s [105] = true := by decide +kernel

theorem fixed_witness_refuses :
    (run w0 [Op.seed, Op.editInsert 1 [100], Op.insert 2 [105]]).verts
      = [(1, [100]), (0, [0])] := by decide +kernel

/-! ### the pre-fix behaviour of `rebuild` (negative result, F22) -/

/-- `step` before the fix F22: `rebuild` renumbers the live vertices but leaves the grid entries as
they are (the old keys no longer resolve, so every entry is stale); all other operations as in
`step` -/
def stepStaleRekey (s : St) : Op → St
  | .rebuild b => { s with verts := rekey b s.verts, idx := s.idx }
  | op => step s op

def r0 : St := { c := 10, verts := [], idx := none }

def rekeyHist : List Op := [.seed, .insert 0 [0], .insert 1 [100], .remove 0, .rebuild 2]

/-- pre-fix: after the rebuild the surviving vertex has key 2 but its grid entry still carries
key 1, so a point within tolerance of it is a duplicate by scan and is NOT reported by the cache;
with the real `step` (grid re-keyed) the cache reports it -/
theorem stale_rekey_witness :
    let sb := rekeyHist.foldl stepStaleRekey r0
    let sf := run r0 rekeyHist
    (scanDup sb [105] = true ∧ isDup sb [105] = false) ∧
    (scanDup sf [105] = true ∧ isDup sf [105] = true) := by decide +kernel

/-- the two final states: same live vertices, stale vs re-keyed grid -/
theorem stale_rekey_states :
    (rekeyHist.foldl stepStaleRekey r0).verts = [(2, [100])] ∧
    (rekeyHist.foldl stepStaleRekey r0).idx = some [(1, [100]), (0, [0])] ∧
    (run r0 rekeyHist).verts = [(2, [100])] ∧
    (run r0 rekeyHist).idx = some [(2, [100])] := by decide +kernel

/-- pre-fix: the invariant `Consistent` is what the un-re-keyed rebuild broke -/
theorem stale_rekey_breaks_consistent : ¬ Consistent (rekeyHist.foldl stepStaleRekey r0) :=
  -- the live vertex is `(2, [100])`; the grid still holds it under its old key 1
  fun h => absurd (h (2, [100]) List.mem_cons_self) (by decide +kernel)

/-- pre-fix: the missed duplicate is then inserted; the real `step` refuses it -/
theorem stale_rekey_inserts_duplicate :
    ((rekeyHist ++ [Op.insert 3 [105]]).foldl stepStaleRekey r0).verts = [(3, [105]), (2, [100])] ∧
    (run r0 (rekeyHist ++ [.insert 3 [105]])).verts = [(2, [100])] := by decide +kernel

/-! ### non-vacuity: a small 2-D history -/

def e0 : St := { c := 10, verts := [], idx := none }

def hist : List Op := [.seed, .insert 0 [0, 0], .insert 1 [50, 50], .remove 1]

/-- the grid is present and still holds the stale entry of the removed vertex -/
example : (run e0 hist).idx = some [(1, [50, 50]), (0, [0, 0])] := by decide +kernel
example : (run e0 hist).verts = [(0, [0, 0])] := by decide +kernel

/-- an insert at the removed position is ACCEPTED (the stale entry does not refuse it) -/
example : isDup (run e0 hist) [50, 50] = false := by decide +kernel
example : (run e0 (hist ++ [.insert 2 [50, 50]])).verts = [(2, [50, 50]), (0, [0, 0])] := by decide +kernel

/-- an insert within tolerance of a live vertex is REFUSED -/
example : isDup (run e0 (hist ++ [.insert 2 [50, 50]])) [53, 46] = true := by decide +kernel
example : (run e0 (hist ++ [.insert 2 [50, 50], .insert 3 [53, 46]])).verts
    = [(2, [50, 50]), (0, [0, 0])] := by decide +kernel

/-- within tolerance across a cell boundary (negative coordinates, floor division) -/
example : isDup (run e0 hist) [-3, -4] = true := by decide +kernel
example : nearBucket (bucket 10 [-3, -4]) (bucket 10 [0, 0]) = true := by decide +kernel

/-- just outside the tolerance: accepted -/
example : isDup (run e0 hist) [6, 8] = false := by decide +kernel

/-- a rebuild renumbers the live vertices and re-keys the grid: the stale entry is gone, the
duplicate check answers as before -/
example : (run e0 (hist ++ [.rebuild 7])).verts = [(7, [0, 0])] := by decide +kernel
example : (run e0 (hist ++ [.rebuild 7])).idx = some [(7, [0, 0])] := by decide +kernel
example : isDup (run e0 (hist ++ [.rebuild 7])) [-3, -4] = true := by decide +kernel
example : isDup (run e0 (hist ++ [.rebuild 7])) [50, 50] = false := by decide +kernel
example : ∀ op ∈ hist ++ [.rebuild 7], OpDim 2 op ∧ Checked op := by
  simp only [hist, List.cons_append, List.nil_append, List.forall_mem_cons, List.not_mem_nil,
    false_imp_iff, implies_true, and_true]
  trivial

/-- the hypotheses of `reachable_query_eq_scan` / `reachable_pairSep` hold for this history -/
example : ∀ op ∈ hist ++ [.insert 2 [50, 50], .insert 3 [53, 46]], OpDim 2 op := by
  simp only [hist, List.cons_append, List.nil_append, List.forall_mem_cons, List.not_mem_nil,
    false_imp_iff, implies_true, and_true]
  trivial
example : KeysUnique e0 ∧ VertsDim 2 e0 ∧ PairSep e0 ∧ e0.idx = none ∧ 0 < e0.c :=
  -- no live vertex: the first three hold vacuously
  ⟨List.nodup_nil, nofun, nofun, rfl, by decide⟩

/-! ### the two-site defect of the un-keyable handling (negative results): the defective machines -/

/-- defect at the QUERY site: a query at an un-keyable point is answered from the grid like any
other query (no fallback to the scan); `keyable` is not consulted at all -/
def isDupSkip (s : St) (q : Pt) : Bool :=
  match s.idx with
  | some es => gridDup s es q
  | none => scanDup s q

/-- the defective query is the query of the ORIGINAL machine, which knows nothing of keyability -/
theorem isDupSkip_eq_isDup (s : St) (q : Pt) : isDupSkip s q = isDup s q := rfl

/-- the more literal reading of the query-site defect: an un-keyable query point has no bucket, so
a grid that is consulted for it inspects NO candidate and answers "not a duplicate" -/
def isDupSkipNone (keyable : Pt → Bool) (s : St) (q : Pt) : Bool :=
  match s.idx with
  | some es => if keyable q then gridDup s es q else false
  | none => scanDup s q

/-- the machine with both sites as parameters. `skipIns = true` is the defect at the INSERTION
site: an accepted un-keyable point leaves the grid in place WITHOUT an entry for it (and `seed`,
which builds the grid by the same insertions, silently omits the un-keyable live vertices);
`dup` is the duplicate check used for the refusal test. All other operations as in `stepK`. -/
def stepW (skipIns : Bool) (dup : St → Pt → Bool) (keyable : Pt → Bool) (s : St) : Op → St
  | .seed =>
    if skipIns then
      match s.idx with
      | some _ => s
      | none => { s with idx := some (s.verts.filter (fun v => keyable v.2)) }
    else stepK keyable s .seed
  | .insert k p =>
    if dup s p || s.verts.any (·.1 == k) then s
    else if keyable p then { s with verts := (k, p) :: s.verts, idx := s.idx.map ((k, p) :: ·) }
    else if skipIns then { s with verts := (k, p) :: s.verts }       -- grid kept, no entry
    else { s with verts := (k, p) :: s.verts, idx := none }
  | op => stepK keyable s op

/-- both defects: un-keyable insertions are skipped by the grid, un-keyable queries use the grid -/
def stepSkip (keyable : Pt → Bool) (s : St) (op : Op) : St := stepW true isDupSkip keyable s op

theorem stepW_faithful (keyable : Pt → Bool) (s : St) (op : Op) :
    stepW false (isDupK keyable) keyable s op = stepK keyable s op := by
  cases op <;> rfl

/-! ### a concrete history -/

def keyW : Pt → Bool := fun p => p.all (fun x => decide (-1000 < x ∧ x < 1000))

def k0 : St := { c := 10, verts := [], idx := none }

/-- seed a grid, insert a keyable vertex, insert an un-keyable vertex `P = [5000]` -/
def skipHist : List Op := [.seed, .insert 0 [0], .insert 1 [5000]]

example : keyW [0] = true ∧ keyW [5000] = false := by decide +kernel

/-- both defects: after inserting the un-keyable `P` the grid is still there and has no entry for
`P`; the defective query says "not a duplicate" for `P` itself while the scan says "duplicate" -/
theorem skip_witness :
    let s := skipHist.foldl (stepSkip keyW) k0
    s.verts = [(1, [5000]), (0, [0])] ∧ s.idx = some [(0, [0])] ∧
    scanDup s [5000] = true ∧ isDupSkip s [5000] = false ∧ isDupSkipNone keyW s [5000] = false := by
  decide +kernel

/-- both defects: the invariant `ConsistentK` is what the skipped insertion broke -/
theorem skip_breaks_consistentK : ¬ ConsistentK keyW (skipHist.foldl (stepSkip keyW) k0) :=
  -- the un-keyable `(1, [5000])` is live and has no grid entry
  fun h => absurd (h.1 (1, [5000]) List.mem_cons_self) (by decide +kernel)

/-- both defects: `P` is inserted a second time — two live vertices at the same coordinates, the
pairwise separation is broken; the faithful machine refuses the second insertion -/
theorem skip_inserts_duplicate :
    let s := (skipHist ++ [Op.insert 2 [5000]]).foldl (stepSkip keyW) k0
    s.verts = [(2, [5000]), (1, [5000]), (0, [0])] ∧ ¬ PairSep s ∧
    (runK keyW k0 (skipHist ++ [.insert 2 [5000]])).verts = [(1, [5000]), (0, [0])] := by
  refine ⟨by decide +kernel, fun h => ?_, by decide +kernel⟩
  -- `(2, [5000])` and `(1, [5000])` are two live vertices at distance 0
  exact h (2, [5000]) (by decide +kernel) (1, [5000]) (by decide +kernel) (by decide +kernel)
    (by decide +kernel)

/-- only the INSERTION site is defective (the query is the faithful `isDupK`): the grid is kept
without an entry for `P`, but the query at `P` is un-keyable and falls back to the scan, which
finds `P`; the second insertion is refused -/
theorem skip_insert_alone_ok :
    let s := skipHist.foldl (stepW true (isDupK keyW) keyW) k0
    s.idx = some [(0, [0])] ∧ scanDup s [5000] = true ∧ isDupK keyW s [5000] = true ∧
    ((skipHist ++ [Op.insert 2 [5000]]).foldl (stepW true (isDupK keyW) keyW) k0).verts
      = [(1, [5000]), (0, [0])] := by decide +kernel

/-- only the QUERY site is defective (the step is the faithful one apart from its refusal test):
inserting `P` dropped the grid, so the defective query has no grid to consult and the scan
answers; the second insertion is refused. The same holds for the literal reading of the defect. -/
theorem skip_query_alone_ok :
    let s := skipHist.foldl (stepW false isDupSkip keyW) k0
    s.idx = none ∧ scanDup s [5000] = true ∧ isDupSkip s [5000] = true ∧
    ((skipHist ++ [Op.insert 2 [5000]]).foldl (stepW false isDupSkip keyW) k0).verts
      = [(1, [5000]), (0, [0])] ∧
    ((skipHist ++ [Op.insert 2 [5000]]).foldl (stepW false (isDupSkipNone keyW) keyW) k0).verts
      = [(1, [5000]), (0, [0])] := by decide +kernel

/-- the faithful machine on the same history: the grid is dropped, the duplicate is reported -/
theorem skip_fixed_witness :
    let s := runK keyW k0 skipHist
    s.idx = none ∧ scanDup s [5000] = true ∧ isDupK keyW s [5000] = true := by decide +kernel

/-- the insertion-site defect also reaches `seed`: an un-keyable vertex that entered through the
Edit API is omitted by the seeded grid, and the defective query then misses it; the faithful `seed`
builds no grid -/
theorem skip_seed_witness :
    let h : List Op := [.editInsert 0 [5000], .seed]
    let s := h.foldl (stepSkip keyW) k0
    s.idx = some [] ∧ scanDup s [5000] = true ∧ isDupSkip s [5000] = false ∧
    (runK keyW k0 h).idx = none ∧ isDupK keyW (runK keyW k0 h) [5000] = true := by decide +kernel

/-! ### each site alone is NOT correct in general (the boundary of keyability)

`skip_insert_alone_ok` / `skip_query_alone_ok` are statements about ONE history. At the boundary
between keyable and un-keyable coordinates a single defective site is already visible. -/

/-- insertion site alone: the un-keyable vertex `[1000]` has no grid entry; the KEYABLE query
`[995]` (within tolerance of it) is answered by the grid, which misses it -/
theorem skip_insert_alone_boundary_witness :
    let h : List Op := [.seed, .insert 0 [0], .insert 1 [1000]]
    let s := h.foldl (stepW true (isDupK keyW) keyW) k0
    keyW [995] = true ∧ scanDup s [995] = true ∧ isDupK keyW s [995] = false ∧
    ((h ++ [Op.insert 2 [995]]).foldl (stepW true (isDupK keyW) keyW) k0).verts
      = [(2, [995]), (1, [1000]), (0, [0])] ∧
    (runK keyW k0 (h ++ [.insert 2 [995]])).verts = [(1, [1000]), (0, [0])] := by decide +kernel

/-- query site alone, literal reading (an un-keyable query inspects no candidate): the grid holds
the keyable vertex `[995]`; the un-keyable query `[1000]` within tolerance of it is answered "not a
duplicate" and is inserted. (With `isDupSkip`, whose grid query computes the bucket of the
un-keyable point exactly, the model cannot show this: see `query_alone_gridDup_transparent`.) -/
theorem skip_query_alone_boundary_witness :
    let h : List Op := [.seed, .insert 0 [995]]
    let s := h.foldl (stepW false (isDupSkipNone keyW) keyW) k0
    s.idx = some [(0, [995])] ∧ scanDup s [1000] = true ∧ isDupSkipNone keyW s [1000] = false ∧
    ((h ++ [Op.insert 1 [1000]]).foldl (stepW false (isDupSkipNone keyW) keyW) k0).verts
      = [(1, [1000]), (0, [995])] ∧
    (runK keyW k0 (h ++ [.insert 1 [1000]])).verts = [(0, [995])] := by decide +kernel

/-- in a `ConsistentK` state the query `isDupSkip` (exact integer buckets also for un-keyable
points) agrees with the scan: in THIS model the query-site defect is invisible as long as the
insertion site is faithful. The real grid cannot compute the bucket of an un-keyable point exactly,
which is what `isDupSkipNone` stands for. -/
theorem query_alone_gridDup_transparent (keyable : Pt → Bool) (s : St) (d : Nat) (q : Pt)
    (hc : 0 < s.c) (hku : KeysUnique s) (hcons : ConsistentK keyable s)
    (hdim : ∀ v ∈ s.verts, v.2.length = d) (hq : q.length = d) : isDupSkip s q = scanDup s q :=
  consistent_query_eq_scan s d q hc hku (consistentK_consistent hcons) hdim hq

/-! ### non-vacuity: a 2-D history with a grid, un-keyable insertions and re-seeding -/

/-- seed, two inserts, a remove, an UN-KEYABLE insert (drops the grid), a seed that must not build
a grid (an un-keyable vertex is live), its removal, a seed that builds the grid again, an insert -/
def kHist : List Op :=
  [.seed, .insert 0 [0, 0], .insert 1 [50, 50], .remove 1, .insert 2 [5000, 0], .seed, .remove 2,
   .seed, .insert 3 [53, 46]]

/-- the un-keyable insertion is accepted and drops the grid; `seed` does not bring it back while
the un-keyable vertex is live -/
example : (runK keyW k0 (kHist.take 5)).verts = [(2, [5000, 0]), (0, [0, 0])] := by decide +kernel
example : (runK keyW k0 (kHist.take 4)).idx = some [(1, [50, 50]), (0, [0, 0])] := by decide +kernel
example : (runK keyW k0 (kHist.take 5)).idx = none := by decide +kernel
example : (runK keyW k0 (kHist.take 6)).idx = none := by decide +kernel
/-- an un-keyable duplicate of the un-keyable vertex is refused (scan fallback) -/
example : isDupK keyW (runK keyW k0 (kHist.take 6)) [5003, -4] = true := by decide +kernel
example : (runK keyW k0 (kHist.take 6 ++ [.insert 9 [5003, -4]])).verts
    = [(2, [5000, 0]), (0, [0, 0])] := by decide +kernel

/-- the final state HAS a grid, holding exactly the live vertices (all keyable) -/
example : (runK keyW k0 kHist).idx = some [(3, [53, 46]), (0, [0, 0])] := by decide +kernel
example : (runK keyW k0 kHist).verts = [(3, [53, 46]), (0, [0, 0])] := by decide +kernel
/-- keyable queries are answered by the grid, un-keyable ones by the scan; both agree with it -/
example : isDupK keyW (runK keyW k0 kHist) [50, 50] = true ∧
    scanDup (runK keyW k0 kHist) [50, 50] = true := by decide +kernel
example : keyW [1002, 46] = false ∧ isDupK keyW (runK keyW k0 kHist) [1002, 46] = false ∧
    scanDup (runK keyW k0 kHist) [1002, 46] = false := by decide +kernel
/-- an un-keyable insertion into the state WITH a grid: accepted, grid dropped, then refused -/
example : (runK keyW k0 (kHist ++ [.insert 4 [0, -7000]])).idx = none := by decide +kernel
example : (runK keyW k0 (kHist ++ [.insert 4 [0, -7000], .insert 5 [1, -7001]])).verts
    = [(4, [0, -7000]), (3, [53, 46]), (0, [0, 0])] := by decide +kernel

theorem kHist_ops : ∀ op ∈ kHist, OpDim 2 op ∧ Checked op := by
  simp only [kHist, List.forall_mem_cons, List.not_mem_nil, false_imp_iff, implies_true, and_true]
  trivial

/-- the hypotheses of `reachableK_query_eq_scan` / `reachableK_pairSep` hold for this history -/
example : ∀ op ∈ kHist ++ [.insert 4 [0, -7000], .insert 5 [1, -7001]], OpDim 2 op ∧ Checked op := by
  refine List.forall_mem_append.2 ⟨kHist_ops, ?_⟩
  simp only [List.forall_mem_cons, List.not_mem_nil, false_imp_iff, implies_true, and_true]
  trivial
example : KeysUnique k0 ∧ VertsDim 2 k0 ∧ PairSep k0 ∧ k0.idx = none ∧ 0 < k0.c :=
  ⟨List.nodup_nil, nofun, nofun, rfl, by decide⟩

example (q : Pt) (hq : q.length = 2) :
    isDupK keyW (runK keyW k0 kHist) q = scanDup (runK keyW k0 kHist) q :=
  reachableK_query_eq_scan keyW k0 kHist 2 q rfl (by decide) List.nodup_nil nofun
    (fun op h => (kHist_ops op h).1) hq
example : PairSep (runK keyW k0 kHist) :=
  reachableK_pairSep keyW k0 kHist 2 rfl (by decide) List.nodup_nil nofun
    (fun op h => (kHist_ops op h).1) (fun op h => (kHist_ops op h).2) nofun

end DM.C09
