/-
Props/C10.lean — property theorems for C10 (point location: a facet walk with a visited set and a
step budget, falling back to a linear scan).

Model: `Model/Locate.lean`.

 * `firstOutside_none_iff`, `firstOutside_some_iff`: the per-cell facet search;
 * `scan_inside_sound`, `scan_outside_witness`: the linear scan;
 * `walk_inside_mem`, `walk_outside_witness`: the walk, for every fuel / start / visited list,
   i.e. for every way it can end (directly, by the cycle fallback, by the step-limit fallback),
   along the functional induction of `locateWalk`;
 * `locate_eq`, `locate_some` (an answer of `locate` is the walk's, from a live start id), then
   `locate_inside_sound`, `locate_outside_witness`, `locate_outside_witness_closed`,
   `locate_none_iff`, `locate_stale_hint`: the same through `locate`, for every hint;
 * `walkSteps`: the number of cells the walk examines, as a second definition with the recursion of
   `locateWalk` (the bounds below are about this counter; no theorem ties it to `locateWalk`);
   `walkSteps_le_fuel`, `walkSteps_le_ids`, `walkSteps_le_cells`: it is bounded by the fuel and by
   the number of (distinct) cell ids, which the visited list enforces;
 * `outsideFacet_iff`, `outsideFacet_eq`, `vertex_not_outside`, `vertex_inClosedCell`,
   `firstOutside_none_iff_inClosedCell`, `locate_inside_inClosedCell`: what the side test
   computes, and why `inside` means containment;
 * `twoTri_*`: non-vacuity on a concrete two-triangle complex (by evaluation).
-/
import DelaunayModel.Model.Locate
import DelaunayModel.Lemmas.CxAux
import DelaunayModel.Lemmas.DetBridge
namespace DM.C10

open DM DM.LocateAux

/-! ### 1. the facet search of one cell -/

theorem firstOutside_none_iff (K : Cx) (emin : Int) (c : Cell) (q : IPt) :
    firstOutside K emin c q = none ↔
      ∀ i, i < c.vs.length → outsideFacet K emin c i q ≠ some true := by
  simp only [firstOutside, List.find?_eq_none, List.mem_range, beq_iff_eq]

theorem firstOutside_some_iff {K : Cx} {emin : Int} {c : Cell} {q : IPt} {i : Nat} :
    firstOutside K emin c q = some i ↔
      outsideFacet K emin c i q = some true ∧ i < c.vs.length ∧
        ∀ j, j < i → outsideFacet K emin c j q ≠ some true := by
  simp only [firstOutside, List.find?_range_eq_some, List.mem_range, beq_iff_eq, Bool.not_eq_true',
    beq_eq_false_iff_ne]

theorem firstOutside_some {K : Cx} {emin : Int} {c : Cell} {q : IPt} {i : Nat}
    (h : firstOutside K emin c q = some i) :
    i < c.vs.length ∧ outsideFacet K emin c i q = some true :=
  ⟨(firstOutside_some_iff.1 h).2.1, (firstOutside_some_iff.1 h).1⟩

theorem firstOutside_some_first {K : Cx} {emin : Int} {c : Cell} {q : IPt} {i : Nat}
    (h : firstOutside K emin c q = some i) :
    ∀ j, j < i → outsideFacet K emin c j q ≠ some true :=
  (firstOutside_some_iff.1 h).2.2

/-! ### 2. the linear scan -/

theorem scan_inside_sound {K : Cx} {emin : Int} {q : IPt} {k : Nat}
    (h : locateScan K emin q = .inside k) :
    ∃ c ∈ K.cells, c.id = k ∧
      ∀ i, i < c.vs.length → outsideFacet K emin c i q ≠ some true := by
  unfold locateScan at h
  split at h
  · rename_i c hc
    refine ⟨c, List.mem_of_find?_eq_some hc, by injection h, ?_⟩
    have hp := List.find?_some hc
    rw [Option.isNone_iff_eq_none] at hp
    exact (firstOutside_none_iff K emin c q).1 hp
  · cases h

theorem scan_outside_witness {K : Cx} {emin : Int} {q : IPt}
    (h : locateScan K emin q = .outside) :
    ∀ c ∈ K.cells, ∃ i, i < c.vs.length ∧ outsideFacet K emin c i q = some true := by
  unfold locateScan at h
  split at h
  · cases h
  · rename_i hn
    rw [List.find?_eq_none] at hn
    intro c hc
    have := hn c hc
    cases hf : firstOutside K emin c q with
    | none => simp [hf] at this
    | some i => exact ⟨i, firstOutside_some hf⟩

theorem scan_complete {K : Cx} {emin : Int} {q : IPt} {c : Cell} (hc : c ∈ K.cells)
    (h : ∀ i, i < c.vs.length → outsideFacet K emin c i q ≠ some true) :
    ∃ k, locateScan K emin q = .inside k := by
  cases hs : locateScan K emin q with
  | inside k => exact ⟨k, rfl⟩
  | outside =>
    obtain ⟨i, hi, ho⟩ := scan_outside_witness hs c hc
    exact absurd ho (h i hi)

/-! ### 3. the walk -/

/-- however the walk ends (directly, by the cycle fallback, by the step-limit fallback), an `inside`
answer names a stored cell none of whose facets has the query strictly outside -/
theorem walk_inside_mem (K : Cx) (emin : Int) (q : IPt) (fuel cur : Nat) (visited : List Nat)
    {k : Nat} (h : locateWalk K emin q fuel cur visited = .inside k) :
    ∃ c ∈ K.cells, c.id = k ∧
      ∀ i, i < c.vs.length → outsideFacet K emin c i q ≠ some true := by
  fun_induction locateWalk K emin q fuel cur visited with
  | case1 => exact scan_inside_sound h
  | case2 => exact scan_inside_sound h
  | case3 => cases h
  | case4 _ _ _ _ c hc hf =>
    cases h
    exact ⟨c, (Cx.cellById_some hc).1, (Cx.cellById_some hc).2, (firstOutside_none_iff K emin c q).1 hf⟩
  | case5 _ _ _ _ _ _ _ _ _ _ ih => exact ih h
  | case6 => cases h

/-- The three ways the walk can answer `outside`:
 1. it stood in a live cell `c` (id `k`) whose first outside facet `i` is a boundary facet
    (no neighbour) with the query strictly beyond it;
 2. it fell back to the scan (cycle / step limit) and every cell has a facet with the query
    strictly beyond it;
 3. it was sent to an id that is not a live cell (the model maps the Rust `InvalidCell` error to
    `.outside`).  The id the walk stands on is always the start id or a neighbour pointer
    `nbSlot c i` of a live cell (`hcur`, kept along the walk), so such an id is the start id or a
    dangling pointer. -/
theorem walk_outside_witness (K : Cx) (emin : Int) (q : IPt) (start fuel cur : Nat)
    (visited : List Nat)
    (hcur : cur = start ∨ ∃ k c i, K.cellById k = some c ∧ nbSlot c i = some cur)
    (h : locateWalk K emin q fuel cur visited = .outside) :
    (∃ k c i, K.cellById k = some c ∧ i < c.vs.length ∧
        outsideFacet K emin c i q = some true ∧ nbSlot c i = none) ∨
    (∀ c ∈ K.cells, ∃ i, i < c.vs.length ∧ outsideFacet K emin c i q = some true) ∨
    (∃ id, K.cellById id = none ∧
        (id = start ∨ ∃ k c i, K.cellById k = some c ∧ nbSlot c i = some id)) := by
  fun_induction locateWalk K emin q fuel cur visited with
  | case1 => exact .inr (.inl (scan_outside_witness h))
  | case2 => exact .inr (.inl (scan_outside_witness h))
  | case3 _ cur _ _ hn => exact .inr (.inr ⟨cur, hn, hcur⟩)
  | case4 => cases h
  | case5 _ cur _ _ c hc i _ n hn ih => exact ih (.inr ⟨cur, c, i, hc, hn⟩) h
  | case6 _ cur _ _ c hc i hf hn =>
    exact .inl ⟨cur, c, i, hc, (firstOutside_some hf).1, (firstOutside_some hf).2, hn⟩

/-! ### 4. `locate` -/

def startId (K : Cx) (c0 : Cell) : Option Nat → Nat
  | some h => if (K.cellById h).isSome then h else c0.id
  | none => c0.id

/-- `locate` is the walk from `startId`, from the first cell on -/
theorem locate_eq (K : Cx) (emin : Int) (q : IPt) (hint : Option Nat) :
    locate K emin q hint =
      K.cells.head?.map fun c0 => locateWalk K emin q maxSteps (startId K c0 hint) [] := by
  unfold locate
  cases K.cells with
  | nil => rfl
  | cons c0 rest => cases hint <;> rfl

theorem startId_live {K : Cx} {c0 : Cell} (hc0 : c0 ∈ K.cells) (hint : Option Nat) :
    (K.cellById (startId K c0 hint)).isSome = true := by
  have h0 : (K.cellById c0.id).isSome = true := Cx.cellById_isSome_of_mem hc0
  cases hint with
  | none => exact h0
  | some h =>
    simp only [startId]
    split
    · assumption
    · exact h0

theorem locate_none_iff (K : Cx) (emin : Int) (q : IPt) (hint : Option Nat) :
    locate K emin q hint = none ↔ K.cells = [] := by
  rw [locate_eq, Option.map_eq_none_iff, List.head?_eq_none_iff]

theorem locate_some {K : Cx} {emin : Int} {q : IPt} {hint : Option Nat} {r : LocRes}
    (h : locate K emin q hint = some r) :
    ∃ c0 ∈ K.cells, locateWalk K emin q maxSteps (startId K c0 hint) [] = r := by
  rw [locate_eq, Option.map_eq_some_iff] at h
  obtain ⟨c0, hc0, hw⟩ := h
  exact ⟨c0, List.mem_of_mem_head? hc0, hw⟩

theorem locate_inside_sound {K : Cx} {emin : Int} {q : IPt} {hint : Option Nat} {k : Nat}
    (h : locate K emin q hint = some (.inside k)) :
    ∃ c ∈ K.cells, c.id = k ∧
      ∀ i, i < c.vs.length → outsideFacet K emin c i q ≠ some true := by
  obtain ⟨c0, _, hw⟩ := locate_some h
  exact walk_inside_mem K emin q _ _ _ hw

/-- `locate … = some .outside`: a boundary facet of a live cell with the query strictly beyond it,
or every cell has a facet with the query strictly beyond it, or some live cell has a dangling
neighbour pointer (the start cell is always live, so the `id = cur` case of the walk is gone). -/
theorem locate_outside_witness {K : Cx} {emin : Int} {q : IPt} {hint : Option Nat}
    (h : locate K emin q hint = some .outside) :
    (∃ k c i, K.cellById k = some c ∧ i < c.vs.length ∧
        outsideFacet K emin c i q = some true ∧ nbSlot c i = none) ∨
    (∀ c ∈ K.cells, ∃ i, i < c.vs.length ∧ outsideFacet K emin c i q = some true) ∨
    (∃ id k c i, K.cellById id = none ∧ K.cellById k = some c ∧ nbSlot c i = some id) := by
  obtain ⟨c0, hc0, hw⟩ := locate_some h
  refine (walk_outside_witness K emin q _ _ _ _ (.inl rfl) hw).imp_right (Or.imp_right ?_)
  rintro ⟨id, hid, rfl | ⟨k, c, i, hc, hn⟩⟩
  · have := startId_live hc0 hint
    rw [hid] at this
    cases this
  · exact ⟨id, k, c, i, hid, hc, hn⟩

/-- every neighbour pointer of a stored cell names a live cell -/
def NbClosed (K : Cx) : Prop :=
  ∀ c ∈ K.cells, ∀ i n, nbSlot c i = some n → (K.cellById n).isSome = true

/-- executable check of `NbClosed` -/
def nbClosedB (K : Cx) : Bool :=
  K.cells.all (fun c => match c.nb with
    | none => true
    | some l => l.all (fun o => match o with
      | none => true
      | some n => (K.cellById n).isSome))

theorem nbClosed_of_check {K : Cx} (h : nbClosedB K = true) : NbClosed K := by
  intro c hc i n hn
  obtain ⟨l, hl, hm⟩ := nbSlot_eq_some hn
  have := List.all_eq_true.1 h c hc
  rw [hl] at this
  exact List.all_eq_true.1 this _ hm

/-- with no dangling neighbour pointers only the two meaningful cases remain -/
theorem locate_outside_witness_closed {K : Cx} {emin : Int} {q : IPt} {hint : Option Nat}
    (hcl : NbClosed K) (h : locate K emin q hint = some .outside) :
    (∃ c ∈ K.cells, ∃ i, i < c.vs.length ∧
        outsideFacet K emin c i q = some true ∧ nbSlot c i = none) ∨
    (∀ c ∈ K.cells, ∃ i, i < c.vs.length ∧ outsideFacet K emin c i q = some true) := by
  rcases locate_outside_witness h with ⟨k, c, i, hc, hi, ho, hn⟩ | h2 | ⟨id, k, c, i, hid, hc, hn⟩
  · exact Or.inl ⟨c, (Cx.cellById_some hc).1, i, hi, ho, hn⟩
  · exact Or.inr h2
  · have := hcl c (Cx.cellById_some hc).1 i id hn
    rw [hid] at this
    cases this

/-- a removed or foreign cell key behaves exactly like no hint -/
theorem locate_stale_hint {K : Cx} {h : Nat} (hh : K.cellById h = none) (emin : Int) (q : IPt) :
    locate K emin q (some h) = locate K emin q none := by
  rw [locate_eq, locate_eq]
  simp [startId, hh]

/-- a live hint is where the walk starts -/
theorem locate_live_hint {K : Cx} {h : Nat} (hh : (K.cellById h).isSome = true) (emin : Int)
    (q : IPt) (hne : K.cells ≠ []) :
    locate K emin q (some h) = some (locateWalk K emin q maxSteps h []) := by
  obtain ⟨c0, rest, hK⟩ := List.exists_cons_of_ne_nil hne
  rw [locate_eq, hK]
  simp [startId, hh]

/-! ### 5. the step budget -/

/-- number of cells examined by the walk part (the scan is not counted); same recursion as
`locateWalk` -/
def walkSteps (K : Cx) (emin : Int) (q : IPt) : Nat → Nat → List Nat → Nat
  | 0, _, _ => 0
  | fuel+1, cur, visited =>
    if visited.contains cur then 0
    else match K.cellById cur with
      | none => 1
      | some c =>
        match firstOutside K emin c q with
        | none => 1
        | some i =>
          match nbSlot c i with
          | some n => 1 + walkSteps K emin q fuel n (cur :: visited)
          | none => 1

theorem walkSteps_le_fuel (K : Cx) (emin : Int) (q : IPt) (fuel cur : Nat) (visited : List Nat) :
    walkSteps K emin q fuel cur visited ≤ fuel := by
  fun_induction walkSteps K emin q fuel cur visited <;> omega

/-- The visited list grows by one live, fresh id per step, so a duplicate-free visited list of
live ids bounds the remaining steps by the number of ids not yet visited (+1 for the step that
finds a dangling id).  `m` is any list that contains every live id. -/
theorem walkSteps_add_visited_le (K : Cx) (emin : Int) (q : IPt) (m : List Nat)
    (hm : ∀ k c, K.cellById k = some c → k ∈ m) (fuel cur : Nat)
    (visited : List Nat) (hnd : visited.Nodup) (hlive : ∀ v ∈ visited, v ∈ m) :
    walkSteps K emin q fuel cur visited + visited.length ≤ m.length + 1 := by
  have hbase := hnd.length_le_of_subset hlive
  fun_induction walkSteps K emin q fuel cur visited with
  | case5 _ cur visited hnc c hc _ _ _ _ ih =>
    -- the step visits a live id not seen before
    have hnd' : (cur :: visited).Nodup := List.nodup_cons.2 ⟨by simpa using hnc, hnd⟩
    have hlive' : ∀ v ∈ cur :: visited, v ∈ m := List.forall_mem_cons.2 ⟨hm _ c hc, hlive⟩
    have := ih hnd' hlive' (hnd'.length_le_of_subset hlive')
    simp only [List.length_cons] at this; omega
  | _ => omega

/-- from an empty visited list the walk examines at most `#distinct cell ids + 1` cells, whatever
the fuel: it stops, leaves the complex, or hits the cycle check before that -/
theorem walkSteps_le_ids (K : Cx) (emin : Int) (q : IPt) (fuel cur : Nat) :
    walkSteps K emin q fuel cur [] ≤ (K.cells.map (·.id)).eraseDups.length + 1 := by
  exact walkSteps_add_visited_le K emin q (K.cells.map (·.id)).eraseDups
    (fun k c hc => List.mem_eraseDups.2 (Cx.mem_ids_of_cellById hc)) fuel cur [] List.nodup_nil nofun

theorem walkSteps_le_cells (K : Cx) (emin : Int) (q : IPt) (fuel cur : Nat) :
    walkSteps K emin q fuel cur [] ≤ K.cells.length + 1 := by
  have := walkSteps_add_visited_le K emin q (K.cells.map (·.id))
    (fun k c hc => Cx.mem_ids_of_cellById hc) fuel cur [] List.nodup_nil nofun
  rwa [List.length_map] at this

theorem walkSteps_le_min (K : Cx) (emin : Int) (q : IPt) (fuel cur : Nat) :
    walkSteps K emin q fuel cur [] ≤ min fuel (K.cells.length + 1) :=
  Nat.le_min.2 ⟨walkSteps_le_fuel K emin q fuel cur [], walkSteps_le_cells K emin q fuel cur⟩

/-! ### 6. geometry of the side test -/

/-- on a resolvable cell the side test always has an answer, and it is the sign comparison -/
theorem outsideFacet_eq {K : Cx} {emin : Int} {c : Cell} {s : List IPt}
    (hs : cellPts K emin c = some s) (hl : s.length = K.D + 1) (i : Nat) (q : IPt) :
    outsideFacet K emin c i q = some (decide
      (orientSign (s.eraseIdx i ++ [s.getD i []]) * orientSign (s.eraseIdx i ++ [q]) < 0)) := by
  simp only [outsideFacet, hs, hl, bne_self_eq_false, Bool.false_eq_true, if_false]

/-- what `outsideFacet` computes on a resolvable cell: the orientation of the facet with the
opposite vertex and the orientation of the facet with the query have strictly opposite signs -/
theorem outsideFacet_iff {K : Cx} {emin : Int} {c : Cell} {s : List IPt}
    (hs : cellPts K emin c = some s) (hl : s.length = K.D + 1) (i : Nat) (q : IPt) :
    outsideFacet K emin c i q = some true ↔
      orientSign (s.eraseIdx i ++ [s.getD i []]) * orientSign (s.eraseIdx i ++ [q]) < 0 := by
  rw [outsideFacet_eq hs hl, Option.some_inj, decide_eq_true_iff]

theorem outsideFacet_false_iff {K : Cx} {emin : Int} {c : Cell} {s : List IPt}
    (hs : cellPts K emin c = some s) (hl : s.length = K.D + 1) (i : Nat) (q : IPt) :
    outsideFacet K emin c i q = some false ↔
      0 ≤ orientSign (s.eraseIdx i ++ [s.getD i []]) * orientSign (s.eraseIdx i ++ [q]) := by
  rw [outsideFacet_eq hs hl, Option.some_inj, decide_eq_false_iff_not, Int.not_lt]

/-- on a resolvable cell the side test is never `none`, so "not strictly outside" is `some false` -/
theorem outsideFacet_ne_true_iff {K : Cx} {emin : Int} {c : Cell} {s : List IPt}
    (hs : cellPts K emin c = some s) (hl : s.length = K.D + 1) (i : Nat) (q : IPt) :
    outsideFacet K emin c i q ≠ some true ↔ outsideFacet K emin c i q = some false := by
  rw [outsideFacet_eq hs hl, Ne, Option.some_inj, Option.some_inj, Bool.not_eq_true]

/-- on a resolvable cell "no facet has the query strictly outside" is exactly `inClosedCell` -/
theorem firstOutside_none_iff_inClosedCell {K : Cx} {emin : Int} {c : Cell} {s : List IPt}
    (hs : cellPts K emin c = some s) (hl : s.length = K.D + 1) (q : IPt) :
    firstOutside K emin c q = none ↔ inClosedCell K emin c q = true := by
  simp only [firstOutside_none_iff, inClosedCell, List.all_eq_true, List.mem_range, beq_iff_eq,
    outsideFacet_ne_true_iff hs hl]

/-- A vertex of the cell is never strictly outside a facet of that cell that contains it: for the
facet opposite slot `i` and the cell's own point in slot `j ≠ i` the query determinant has two
equal rows, so the side test answers `some false`. -/
theorem vertex_not_outside {K : Cx} {emin : Int} {c : Cell} {s : List IPt}
    (hs : cellPts K emin c = some s) (hl : s.length = K.D + 1)
    (hdim : ∀ p ∈ s, p.length = K.D) {i j : Nat} (hi : i < s.length) (hj : j < s.length)
    (hij : j ≠ i) : outsideFacet K emin c i s[j] = some false := by
  have h0 : orientSign (s.eraseIdx i ++ [s[j]]) = 0 :=
    (congrArg sgn (orientDet_eraseIdx_append_getElem ⟨hl, hdim⟩ hi hj hij)).trans sgn_zero
  rw [outsideFacet_false_iff hs hl, h0, Int.mul_zero]

/-- hence a vertex of a resolvable cell is strictly outside at most the facet opposite to itself;
there the two orientations coincide, so it is not outside that facet either: a cell's own
vertices lie in the closed cell -/
theorem vertex_inClosedCell {K : Cx} {emin : Int} {c : Cell} {s : List IPt}
    (hs : cellPts K emin c = some s) (hl : s.length = K.D + 1)
    (hdim : ∀ p ∈ s, p.length = K.D) {j : Nat}
    (hj : j < s.length) : inClosedCell K emin c s[j] = true := by
  unfold inClosedCell
  simp only [List.all_eq_true, List.mem_range, beq_iff_eq]
  intro i hi
  by_cases hij : j = i
  · subst hij
    rw [outsideFacet_false_iff hs hl, getD_lt _ hj]
    exact mul_self_nonneg _
  · have := cellPts_length hs
    exact vertex_not_outside hs hl hdim (by omega) hj hij

/-- every stored cell resolves to `D + 1` points (true under `checkL1` + `vertsExist`) -/
def Resolvable (K : Cx) (emin : Int) : Prop :=
  ∀ c ∈ K.cells, ∃ s, cellPts K emin c = some s ∧ s.length = K.D + 1

/-- on a resolvable complex `inside k` means exact containment in the closed cell `k` -/
theorem locate_inside_inClosedCell {K : Cx} {emin : Int} {q : IPt} {hint : Option Nat} {k : Nat}
    (hres : Resolvable K emin) (h : locate K emin q hint = some (.inside k)) :
    ∃ c ∈ K.cells, c.id = k ∧ inClosedCell K emin c q = true := by
  obtain ⟨c, hc, hid, hall⟩ := locate_inside_sound h
  obtain ⟨s, hs, hl⟩ := hres c hc
  exact ⟨c, hc, hid, (firstOutside_none_iff_inClosedCell hs hl q).1
    ((firstOutside_none_iff K emin c q).2 hall)⟩

/-! ### 7. non-vacuity -/

/-- the point `(x, y)` with integer coordinates as dyadics `x·2⁰, y·2⁰` -/
def ipt (x y : Int) : Option DPt := some [⟨x, 0⟩, ⟨y, 0⟩]

/-- unit square `(0,0) (1,0) (0,1) (1,1)` split along the diagonal `1–2` into the triangles
`c0 = [0,1,2]`, `c1 = [1,3,2]` (same shape as `C05.twoTri`) -/
def twoTri : Cx :=
  { D := 2
    verts := [⟨0, ipt 0 0, some 0⟩, ⟨1, ipt 1 0, some 0⟩, ⟨2, ipt 0 1, some 1⟩,
              ⟨3, ipt 1 1, some 1⟩]
    cells := [⟨0, [0, 1, 2], some [some 1, none, none]⟩,
              ⟨1, [1, 3, 2], some [none, some 0, none]⟩] }

/-- the same complex with the neighbour pointer of `c0` across the diagonal replaced by a dangling
id `7` -/
def twoTriDangling : Cx :=
  { twoTri with
    cells := [⟨0, [0, 1, 2], some [some 7, none, none]⟩,
              ⟨1, [1, 3, 2], some [none, some 0, none]⟩] }

theorem twoTri_closed : NbClosed twoTri := nbClosed_of_check (by decide +kernel)

theorem twoTri_resolvable : Resolvable twoTri 0 := by
  intro c hc
  simp only [twoTri, List.mem_cons, List.not_mem_nil, or_false] at hc
  rcases hc with rfl | rfl
  · exact ⟨[[0, 0], [1, 0], [0, 1]], by decide +kernel, rfl⟩
  · exact ⟨[[1, 0], [1, 1], [0, 1]], by decide +kernel, rfl⟩

/-- `(0,0)` is a vertex of `c0`: found at once, no hint -/
theorem twoTri_origin : locate twoTri 0 [0, 0] none = some (.inside 0) := by decide +kernel

/-- `(5,5)` is beyond the edge `(1,1)–(0,1)` of `c1`, a boundary facet -/
theorem twoTri_far : locate twoTri 0 [5, 5] none = some .outside := by decide +kernel

/-- `(1,1)` lies in `c1` only: starting from hint `some 0` the walk crosses the diagonal -/
theorem twoTri_walks : locate twoTri 0 [1, 1] (some 0) = some (.inside 1) := by decide +kernel

/-- at scale `2⁻²` (coordinates ×4) the point `(3,3)` is strictly inside `c1` -/
theorem twoTri_walks_interior : locate twoTri (-2) [3, 3] (some 0) = some (.inside 1) ∧
    inClosedCell twoTri (-2) ⟨1, [1, 3, 2], some [none, some 0, none]⟩ [3, 3] = true ∧
    inClosedCell twoTri (-2) ⟨0, [0, 1, 2], some [some 1, none, none]⟩ [3, 3] = false := by
  decide +kernel

/-- a stale hint behaves like no hint; a live hint is used -/
theorem twoTri_hints : locate twoTri 0 [1, 1] (some 7) = some (.inside 1) ∧
    locate twoTri 0 [1, 1] (some 1) = some (.inside 1) ∧
    locate twoTri 0 [0, 0] (some 1) = some (.inside 0) := by decide +kernel

/-- the walk from `c0` to `c1` examines two cells; the direct hit examines one -/
theorem twoTri_steps : walkSteps twoTri 0 [1, 1] maxSteps 0 [] = 2 ∧
    walkSteps twoTri 0 [0, 0] maxSteps 0 [] = 1 := by decide +kernel

/-- step-limit fallback: with no fuel the scan still finds the cell -/
theorem twoTri_no_fuel : locateWalk twoTri 0 [1, 1] 0 0 [] = .inside 1 ∧
    locateWalk twoTri 0 [5, 5] 0 0 [] = .outside := by decide +kernel

/-- cycle fallback: re-entering a visited cell hands over to the scan -/
theorem twoTri_cycle : locateWalk twoTri 0 [1, 1] 5 0 [0] = .inside 1 := by decide +kernel

/-- the third disjunct of `locate_outside_witness` is really needed: a dangling neighbour pointer
makes the model answer `outside` for a point that lies inside `c1` -/
theorem dangling_outside : locate twoTriDangling 0 [1, 1] none = some .outside ∧
    locateScan twoTriDangling 0 [1, 1] = .inside 1 ∧ ¬ NbClosed twoTriDangling := by
  refine ⟨by decide +kernel, by decide +kernel, fun h => ?_⟩
  -- slot 0 of `c0` points to id 7, which names no cell
  exact absurd (h ⟨0, [0, 1, 2], some [some 7, none, none]⟩ List.mem_cons_self 0 7 rfl)
    (by decide +kernel)

end DM.C10
