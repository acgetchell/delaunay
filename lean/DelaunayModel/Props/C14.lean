/-
Props/C14.lean — property theorems for C14: construction is deterministic and, with the Hilbert /
Morton / lexicographic insertion ordering, independent of the order in which the caller listed the
vertices; in general position every certified construction yields THE Delaunay triangulation.

Models: `Model/Order.lean`, `Model/Certify.lean`.  Helpers: `Lemmas/DetermAux.lean`.

Determinism itself is definitional in the model: every model function is a pure Lean function, so
"same input ⇒ same output" is `congrArg`; no theorem is stated for it.  The tie to the real code is
by correspondence (K1/K2 replay the real run twice and compare against the one model value).

What is proved here is listing-order independence.

A. orderings.  Values are `(key, coordinates)`; the input index is only the last tie-break.
 * `sortKeyed_values_perm_invariant`: two keyed lists with the same value multiset (points of one
   common length; comparison-equal values are equal) have the same sorted value sequence;
 * `cmpPt_faithful`: the comparison-equality hypothesis holds for normalised dyadic coordinates
   (`DyNorm`), and `ofBits_normalised`: every finite decoded f64 is normalised;
 * `orderByKey_perm_invariant` (`_of_pt`: for a key that reads a vertex only through its
   coordinates), `orderLex_perm_invariant`,
   `mortonKey_perm`, `hilbertKey_perm`, `orderMorton_perm_invariant`,
   `orderHilbert_perm_invariant` (`D ≠ 0`), `orderByStrategy_perm_invariant` (strategies ≥ 1);
 * counterexamples: `orderLex_perm_invariant_fails_unnormalised` (two representations of one
   number: the index tie-break decides), `orderHilbert_perm_invariant_fails_D0` (`D = 0` returns
   the input order), `orderInput_not_invariant` (strategy 0).
B. `seed_perm_invariant`: the shuffle seed hashes the sorted per-vertex hashes.
C. `dt_unique`, `bruteDT_perm_eq`, `bruteDT_perm_invariant`, `generalPosition_perm`,
   `certified_unique`: the brute-force Delaunay set is a function of the point SET, and two
   complexes certified against it (for any two listings) have the same cells.
D. non-vacuity: the listings of section A through the theorems, the rest by evaluation.
-/
import DelaunayModel.Lemmas.DetermAux
import DelaunayModel.Lemmas.CxAux
namespace DM.C14

open DM DM.Order DM.OrderAux DM.DetermAux

/-! ## A. orderings -/

/-- the value of a keyed vertex: key and coordinates, without the input index -/
abbrev valOf (p : Nat × OV) : Nat × DPt := (p.1, p.2.pt)

example (p : Nat × OV) : valOf p = (p.1, p.2.pt) := rfl

/-- Listing-order independence of the sorted value sequence.  No "no ties" hypothesis is needed:
values that tie are equal objects (`hEq`), so whichever the index tie-break puts first, the value
sequence is the same.  Both sides are sorted by (key, coordinates) — `cmpKeyed` without the index —
and a sorted sequence is determined by its multiset once comparison-equal values are equal. -/
theorem sortKeyed_values_perm_invariant {n : Nat} (l₁ l₂ : List (Nat × OV))
    (hp : (l₁.map valOf).Perm (l₂.map valOf))
    (hn : ∀ p ∈ l₁, p.2.pt.length = n)
    (hEq : ∀ a ∈ l₁, ∀ b ∈ l₁, cmpNat a.1 b.1 = .eq → cmpPt a.2.pt b.2.pt = .eq →
      valOf a = valOf b) :
    (sortKeyed l₁).map valOf = (sortKeyed l₂).map valOf := by
  have hn₂ : ∀ p ∈ l₂, p.2.pt.length = n := fun p hp₂ => by
    obtain ⟨q, hq, he⟩ := List.mem_map.1 (hp.mem_iff.2 (List.mem_map_of_mem hp₂))
    exact (congrArg (fun v => v.2.length) he).symm.trans (hn q hq)
  have hperm : ((sortKeyed l₁).map valOf).Perm ((sortKeyed l₂).map valOf) :=
    (((OrderAux.sortKeyed_perm l₁).map valOf).trans hp).trans
      ((OrderAux.sortKeyed_perm l₂).map valOf).symm
  let vle (a b : Nat × DPt) : Prop := ((cmpNat a.1 b.1).then (cmpPt a.2 b.2)).isLE
  refine hperm.eq_of_pairwise (le := vle) ?_ (List.pairwise_map.2 (sortKeyed_sorted_values l₁ hn))
    (List.pairwise_map.2 (sortKeyed_sorted_values l₂ hn₂))
  -- both are values of members of `l₁`
  intro a b ha hb h1 h2
  obtain ⟨a', ha', rfl⟩ := List.mem_map.1 ha
  obtain ⟨b', hb', rfl⟩ := List.mem_map.1 (hperm.mem_iff.2 hb)
  obtain ⟨e1, e2⟩ := cmpVal_antisymm h1 h2
  exact hEq a' ((OrderAux.sortKeyed_perm l₁).mem_iff.1 ha') b'
    ((OrderAux.sortKeyed_perm l₁).mem_iff.1 hb') e1 e2

/-- the comparison-equality hypothesis holds for normalised dyadic coordinates -/
theorem cmpPt_faithful {p q : DPt} (hl : p.length = q.length) (hp : PtNorm p) (hq : PtNorm q)
    (h : cmpPt p q = .eq) : p = q := by
  induction p generalizing q with
  | nil => exact (List.eq_nil_of_length_eq_zero hl.symm).symm
  | cons x xs ih =>
    obtain ⟨y, ys, rfl⟩ := List.exists_cons_of_length_eq_add_one hl.symm
    obtain ⟨hx, hxs⟩ := List.forall_mem_cons.1 hp
    obtain ⟨hy, hys⟩ := List.forall_mem_cons.1 hq
    rw [cmpPt_cons] at h
    obtain ⟨h1, h2⟩ := Ordering.then_eq_eq.1 h
    rw [ofDy_cmp_eq hx hy h1, ih (Nat.succ.inj hl) hxs hys h2]

/-- every finite f64 decodes to a normalised dyadic (`±0.0` both decode to the canonical zero) -/
theorem ofBits_normalised (b : Nat) (d : Dy) (h : F64.ofBits b = .fin d) : DyNorm d := by
  unfold F64.ofBits at h
  by_cases hex : (b / 2 ^ 52 % 2048 == 2047) = true
  · rw [if_pos hex] at h
    split at h <;> cases h
  · rw [if_neg hex] at h
    cases h
    refine norm_dyNorm _ _ (by decide) ?_
    -- |±m| = m ≤ fr + 2^52 < 2^53
    have hfr : b % 2 ^ 52 < 2 ^ 52 := Nat.mod_lt _ (by decide)
    generalize b % 2 ^ 52 = fr at hfr
    simp only [apply_ite Int.natAbs, Int.natAbs_neg, ite_self]
    split <;> omega

/-- Listing-order independence of a key ordering whose key depends on the coordinates only:
the same vertex values (normalised coordinates, one common length), listed in any order and with
any input indices, are inserted in the same order.  Duplicated coordinates are allowed. -/
theorem orderByKey_perm_invariant {n : Nat} (kf : DPt → Nat) (xs ys : List OV)
    (hp : (xs.map (·.pt)).Perm (ys.map (·.pt)))
    (hn : ∀ v ∈ xs, v.pt.length = n) (hnorm : ∀ v ∈ xs, PtNorm v.pt) :
    (orderByKey (fun v => kf v.pt) xs).map (·.pt) = (orderByKey (fun v => kf v.pt) ys).map (·.pt) := by
  -- the keyed lists have the same values, and the ordering reads the coordinates off the values
  have h := sortKeyed_values_perm_invariant (n := n) (xs.map fun v => (kf v.pt, v))
    (ys.map fun v => (kf v.pt, v))
    (by simpa only [List.map_map, Function.comp_def] using hp.map fun p => (kf p, p))
    (by simpa only [List.forall_mem_map] using hn) ?_
  · simpa only [orderByKey, List.map_map, Function.comp_def] using congrArg (List.map Prod.snd) h
  · simp only [List.forall_mem_map]
    intro u hu w hw _ hc
    show (kf u.pt, u.pt) = (kf w.pt, w.pt)
    rw [cmpPt_faithful ((hn u hu).trans (hn w hw).symm) (hnorm u hu) (hnorm w hw) hc]

/-- the same for a key that reads a vertex only through its coordinates -/
theorem orderByKey_perm_invariant_of_pt {n : Nat} (key : OV → Nat) (hkey : ∀ v, key v = key ⟨0, v.pt⟩)
    (xs ys : List OV) (hp : (xs.map (·.pt)).Perm (ys.map (·.pt)))
    (hn : ∀ v ∈ xs, v.pt.length = n) (hnorm : ∀ v ∈ xs, PtNorm v.pt) :
    (orderByKey key xs).map (·.pt) = (orderByKey key ys).map (·.pt) := by
  rw [show key = fun v => key ⟨0, v.pt⟩ from funext hkey]
  exact orderByKey_perm_invariant (fun p => key ⟨0, p⟩) xs ys hp hn hnorm

theorem orderLex_perm_invariant {n : Nat} (xs ys : List OV)
    (hp : (xs.map (·.pt)).Perm (ys.map (·.pt)))
    (hn : ∀ v ∈ xs, v.pt.length = n) (hnorm : ∀ v ∈ xs, PtNorm v.pt) :
    (orderLex xs).map (·.pt) = (orderLex ys).map (·.pt) :=
  orderByKey_perm_invariant (fun _ => 0) xs ys hp hn hnorm

/-! ### Morton / Hilbert keys depend on the vertex list only through order-independent aggregates -/

theorem getD_norm {p : DPt} (hp : PtNorm p) (a : Nat) : DyNorm (p.getD a Dy.zero) := by
  rw [List.getD_eq_getElem?_getD]
  cases h : p[a]? with
  | none => exact dyNorm_zero
  | some d => exact hp d (List.mem_of_getElem? h)

theorem minmax_ofDy_perm {ds ds' : List Dy} (hp : ds.Perm ds') (hn : ∀ d ∈ ds, DyNorm d) :
    qMin (ds.map Q.ofDy) = qMin (ds'.map Q.ofDy) ∧ qMax (ds.map Q.ofDy) = qMax (ds'.map Q.ofDy) :=
  have ⟨hpos, hanti⟩ := ofDy_list_ok ds hn
  ⟨qMin_perm (hp.map _) hpos hanti, qMax_perm (hp.map _) hpos hanti⟩

theorem col_minmax_perm {xs ys : List OV} (hp : (xs.map (·.pt)).Perm (ys.map (·.pt)))
    (hnorm : ∀ v ∈ xs, PtNorm v.pt) (a : Nat) :
    qMin (xs.map (fun v => Q.ofDy (v.pt.getD a Dy.zero))) =
      qMin (ys.map (fun v => Q.ofDy (v.pt.getD a Dy.zero))) ∧
    qMax (xs.map (fun v => Q.ofDy (v.pt.getD a Dy.zero))) =
      qMax (ys.map (fun v => Q.ofDy (v.pt.getD a Dy.zero))) := by
  have := minmax_ofDy_perm (hp.map (·.getD a Dy.zero)) (by
    simp only [List.mem_map, forall_exists_index, and_imp, forall_apply_eq_imp_iff₂]
    exact fun v hv => getD_norm (hnorm v hv) a)
  simpa only [List.map_map, Function.comp_def] using this

theorem mortonKey_perm (D : Nat) {xs ys : List OV} (hp : (xs.map (·.pt)).Perm (ys.map (·.pt)))
    (hnorm : ∀ v ∈ xs, PtNorm v.pt) : mortonKey D xs = mortonKey D ys := by
  unfold mortonKey
  split
  · rfl
  · -- the key reads the list through the per-axis minima and maxima only
    simp only [List.map_map, Function.comp_def, fun a => (col_minmax_perm hp hnorm a).1,
      fun a => (col_minmax_perm hp hnorm a).2]

theorem all_minmax_perm {xs ys : List OV} (hp : (xs.map (·.pt)).Perm (ys.map (·.pt)))
    (hnorm : ∀ v ∈ xs, PtNorm v.pt) :
    qMin (xs.flatMap (fun v => v.pt.map Q.ofDy)) = qMin (ys.flatMap (fun v => v.pt.map Q.ofDy)) ∧
    qMax (xs.flatMap (fun v => v.pt.map Q.ofDy)) = qMax (ys.flatMap (fun v => v.pt.map Q.ofDy)) := by
  have := minmax_ofDy_perm (hp.flatMap_right id) (by
    simp only [List.mem_flatMap, List.mem_map, id, forall_exists_index, and_imp]
    rintro d _ v hv rfl hd
    exact hnorm v hv d hd)
  simpa only [List.map_flatMap, List.flatMap_map, id, Function.comp_def] using this

theorem hilbertQuant_perm (D : Nat) {xs ys : List OV} (hp : (xs.map (·.pt)).Perm (ys.map (·.pt)))
    (hnorm : ∀ v ∈ xs, PtNorm v.pt) : hilbertQuant D xs = hilbertQuant D ys := by
  unfold hilbertQuant
  simp only [(all_minmax_perm hp hnorm).1, (all_minmax_perm hp hnorm).2]

theorem hilbertKey_perm (D : Nat) {xs ys : List OV} (hp : (xs.map (·.pt)).Perm (ys.map (·.pt)))
    (hnorm : ∀ v ∈ xs, PtNorm v.pt) : hilbertKey D xs = hilbertKey D ys := by
  unfold hilbertKey
  rw [hilbertQuant_perm D hp hnorm]

/-- both key functions look at a vertex only through its coordinates -/
theorem mortonKey_pt (D : Nat) (vs : List OV) (v : OV) :
    mortonKey D vs v = mortonKey D vs ⟨0, v.pt⟩ := by
  unfold mortonKey
  cases Hilbert.mortonBits D <;> rfl

theorem hilbertKey_pt (D : Nat) (vs : List OV) (v : OV) :
    hilbertKey D vs v = hilbertKey D vs ⟨0, v.pt⟩ := rfl

theorem orderMorton_perm_invariant {n : Nat} (D : Nat) (xs ys : List OV)
    (hp : (xs.map (·.pt)).Perm (ys.map (·.pt)))
    (hn : ∀ v ∈ xs, v.pt.length = n) (hnorm : ∀ v ∈ xs, PtNorm v.pt) :
    (orderMorton D xs).map (·.pt) = (orderMorton D ys).map (·.pt) := by
  unfold orderMorton
  split
  · exact orderLex_perm_invariant xs ys hp hn hnorm
  · rw [← mortonKey_perm D hp hnorm]
    exact orderByKey_perm_invariant_of_pt _ (mortonKey_pt D xs) xs ys hp hn hnorm

/-- the early exit for an empty list returns what the sort would return -/
theorem orderHilbert_of_ne_zero {D : Nat} (hD : D ≠ 0) (vs : List OV) :
    orderHilbert D vs = orderByKey (hilbertKey D vs) vs := by
  unfold orderHilbert
  cases vs with
  | nil => rfl
  | cons v vs => rw [List.isEmpty_cons, Bool.false_or, if_neg (by simpa using hD)]

/-- `D ≠ 0` is necessary: see `orderHilbert_perm_invariant_fails_D0` -/
theorem orderHilbert_perm_invariant {n : Nat} (D : Nat) (hD : D ≠ 0) (xs ys : List OV)
    (hp : (xs.map (·.pt)).Perm (ys.map (·.pt)))
    (hn : ∀ v ∈ xs, v.pt.length = n) (hnorm : ∀ v ∈ xs, PtNorm v.pt) :
    (orderHilbert D xs).map (·.pt) = (orderHilbert D ys).map (·.pt) := by
  rw [orderHilbert_of_ne_zero hD, orderHilbert_of_ne_zero hD, ← hilbertKey_perm D hp hnorm]
  exact orderByKey_perm_invariant_of_pt _ (hilbertKey_pt D xs) xs ys hp hn hnorm

/-- every sorting strategy (1 lexicographic, 2 Morton, ≥ 3 Hilbert) is listing-order independent -/
theorem orderByStrategy_perm_invariant {n : Nat} (D : Nat) (hD : D ≠ 0) (s : Nat) (hs : s ≠ 0)
    (xs ys : List OV) (hp : (xs.map (·.pt)).Perm (ys.map (·.pt)))
    (hn : ∀ v ∈ xs, v.pt.length = n) (hnorm : ∀ v ∈ xs, PtNorm v.pt) :
    (orderByStrategy D s xs).map (·.pt) = (orderByStrategy D s ys).map (·.pt) := by
  unfold orderByStrategy
  split
  · exact absurd rfl hs
  · exact orderLex_perm_invariant xs ys hp hn hnorm
  · exact orderMorton_perm_invariant D xs ys hp hn hnorm
  · exact orderHilbert_perm_invariant D hD xs ys hp hn hnorm

/-! ### counterexamples delimiting the statement -/

/-- FALSE without normalisation: `2·2⁰` and `1·2¹` are the same number in two representations;
they tie in `cmpPt`, the input index decides, and the two listings give different sequences of
(representations of) coordinates.  Finite f64 inputs are always normalised (`ofBits_normalised`);
the real-code analogue of this tie is `+0.0` vs `-0.0`, which the decoder identifies. -/
theorem orderLex_perm_invariant_fails_unnormalised :
    let xs : List OV := [⟨0, [⟨2, 0⟩]⟩, ⟨1, [⟨1, 1⟩]⟩]
    let ys : List OV := [⟨0, [⟨1, 1⟩]⟩, ⟨1, [⟨2, 0⟩]⟩]
    (xs.map (·.pt)).Perm (ys.map (·.pt)) ∧ (∀ v ∈ xs, v.pt.length = 1) ∧
      (orderLex xs).map (·.pt) ≠ (orderLex ys).map (·.pt) := by
  refine ⟨List.Perm.swap _ _ _, by decide +kernel, by decide +kernel⟩

/-- FALSE for `D = 0`: `orderHilbert 0` returns the caller's order -/
theorem orderHilbert_perm_invariant_fails_D0 :
    let xs : List OV := [⟨0, [⟨1, 0⟩]⟩, ⟨1, [⟨0, 0⟩]⟩]
    let ys : List OV := [⟨0, [⟨0, 0⟩]⟩, ⟨1, [⟨1, 0⟩]⟩]
    (xs.map (·.pt)).Perm (ys.map (·.pt)) ∧ (∀ v ∈ xs, PtNorm v.pt) ∧
      (orderHilbert 0 xs).map (·.pt) ≠ (orderHilbert 0 ys).map (·.pt) := by
  refine ⟨List.Perm.swap _ _ _, by decide +kernel, by decide +kernel⟩

/-- strategy 0 (input order) is, of course, not listing-order independent -/
theorem orderInput_not_invariant :
    let xs : List OV := [⟨0, [⟨1, 0⟩]⟩, ⟨1, [⟨0, 0⟩]⟩]
    let ys : List OV := [⟨0, [⟨0, 0⟩]⟩, ⟨1, [⟨1, 0⟩]⟩]
    (orderByStrategy 2 0 xs).map (·.pt) ≠ (orderByStrategy 2 0 ys).map (·.pt) := by decide +kernel

/-! ## B. the shuffle seed -/

/-- the construction shuffle seed: a stable hash of the SORTED per-vertex hashes -/
def shuffleSeed (stable : List Nat → Nat) (hashes : List Nat) : Nat := stable (sortNat hashes)

theorem seed_perm_invariant (stable : List Nat → Nat) {xs ys : List Nat} (h : xs.Perm ys) :
    shuffleSeed stable xs = shuffleSeed stable ys := by
  unfold shuffleSeed
  rw [(sortNat_eq_iff_perm xs ys).2 h]

/-! ## C. the Delaunay triangulation is unique and a function of the point set -/

theorem sameCellSet_mem {K : Cx} {B : List (List Nat)} (h : sameCellSet K B = true) (k : List Nat) :
    k ∈ K.cells.map cellKey ↔ k ∈ B := by
  unfold sameCellSet at h
  simp only [Bool.and_eq_true, List.all_eq_true, List.contains_iff_mem] at h
  exact ⟨h.1.1 k, h.1.2 k⟩

theorem dt_unique {K₁ K₂ : Cx} {B : List (List Nat)} (h₁ : sameCellSet K₁ B = true)
    (h₂ : sameCellSet K₂ B = true) :
    ∀ k, k ∈ K₁.cells.map cellKey ↔ k ∈ K₂.cells.map cellKey :=
  fun k => (sameCellSet_mem h₁ k).trans (sameCellSet_mem h₂ k).symm

theorem dt_unique_length {K₁ K₂ : Cx} {B : List (List Nat)} (h₁ : sameCellSet K₁ B = true)
    (h₂ : sameCellSet K₂ B = true) : K₁.cells.length = K₂.cells.length := by
  unfold sameCellSet at h₁ h₂
  simp only [Bool.and_eq_true, beq_iff_eq, List.length_map] at h₁ h₂
  omega

/-- everything `bruteDT` and `generalPosition` read off the vertex table is listing-order independent -/
theorem vp_perm {vp vp' : List (Nat × IPt)} (hp : vp.Perm vp') (hnd : (vp.map (·.1)).Nodup) :
    sortNat (vp.map (·.1)) = sortNat (vp'.map (·.1)) ∧
    (fun i => vp.lookup i) = (fun i => vp'.lookup i) ∧ ∀ f, vp.all f = vp'.all f :=
  ⟨(sortNat_eq_iff_perm _ _).2 (hp.map _), funext (lookup_perm hp hnd), fun _ => hp.all_eq⟩

/-- the brute-force Delaunay set is literally the same list for any two listings of the points -/
theorem bruteDT_perm_eq (D : Nat) {vp vp' : List (Nat × IPt)} (hp : vp.Perm vp')
    (hnd : (vp.map (·.1)).Nodup) : bruteDT D vp = bruteDT D vp' := by
  obtain ⟨h1, h2, h3⟩ := vp_perm hp hnd
  simp only [bruteDT, h1, h2, h3]

theorem bruteDT_perm_invariant (D : Nat) {vp vp' : List (Nat × IPt)} (hp : vp.Perm vp')
    (hnd : (vp.map (·.1)).Nodup) : ∀ S, S ∈ bruteDT D vp ↔ S ∈ bruteDT D vp' := by
  intro S
  rw [bruteDT_perm_eq D hp hnd]

theorem generalPosition_perm (D : Nat) {vp vp' : List (Nat × IPt)} (hp : vp.Perm vp')
    (hnd : (vp.map (·.1)).Nodup) : generalPosition D vp = generalPosition D vp' := by
  obtain ⟨h1, h2, h3⟩ := vp_perm hp hnd
  simp only [generalPosition, h1, h2, h3]

/-- Every construction certified against the brute-force Delaunay set yields the same cells,
whatever listing of the points each run (and each certification) used. -/
theorem certified_unique (D : Nat) {K₁ K₂ : Cx} {vp vp' : List (Nat × IPt)} (hp : vp.Perm vp')
    (hnd : (vp.map (·.1)).Nodup)
    (h₁ : sameCellSet K₁ (bruteDT D vp) = true) (h₂ : sameCellSet K₂ (bruteDT D vp') = true) :
    ∀ k, k ∈ K₁.cells.map cellKey ↔ k ∈ K₂.cells.map cellKey := by
  rw [← bruteDT_perm_eq D hp hnd] at h₂
  exact dt_unique h₁ h₂

/-! ## D. non-vacuity -/

/-- three 2-D points `(1,2)`, `(0,3)`, `(1,-1)` in two listings with different input indices -/
example :
    (orderLex [⟨0, [⟨1, 0⟩, ⟨1, 1⟩]⟩, ⟨1, [⟨0, 0⟩, ⟨3, 0⟩]⟩, ⟨2, [⟨1, 0⟩, ⟨-1, 0⟩]⟩]).map (·.pt) =
    (orderLex [⟨0, [⟨1, 0⟩, ⟨-1, 0⟩]⟩, ⟨1, [⟨1, 0⟩, ⟨1, 1⟩]⟩, ⟨2, [⟨0, 0⟩, ⟨3, 0⟩]⟩]).map (·.pt) :=
  orderLex_perm_invariant (n := 2) _ _ (by decide +kernel) (by decide +kernel)
    (by decide +kernel)

/-- the hypotheses of `orderLex_perm_invariant` hold for these listings -/
example :
    let xs : List OV := [⟨0, [⟨1, 0⟩, ⟨1, 1⟩]⟩, ⟨1, [⟨0, 0⟩, ⟨3, 0⟩]⟩, ⟨2, [⟨1, 0⟩, ⟨-1, 0⟩]⟩]
    (∀ v ∈ xs, v.pt.length = 2) ∧ (∀ v ∈ xs, PtNorm v.pt) := by decide +kernel

/-- … and the common value is the lexicographic order `(0,3) < (1,-1) < (1,2)` -/
example :
    (orderLex [⟨0, [⟨1, 0⟩, ⟨1, 1⟩]⟩, ⟨1, [⟨0, 0⟩, ⟨3, 0⟩]⟩, ⟨2, [⟨1, 0⟩, ⟨-1, 0⟩]⟩]).map (·.pt) =
      [[⟨0, 0⟩, ⟨3, 0⟩], [⟨1, 0⟩, ⟨-1, 0⟩], [⟨1, 0⟩, ⟨1, 1⟩]] := by decide +kernel

/-- the same for the Hilbert ordering in 2-D -/
example :
    (orderHilbert 2 [⟨0, [⟨1, 0⟩, ⟨1, 1⟩]⟩, ⟨1, [⟨0, 0⟩, ⟨3, 0⟩]⟩, ⟨2, [⟨1, 0⟩, ⟨-1, 0⟩]⟩]).map (·.pt) =
    (orderHilbert 2 [⟨0, [⟨1, 0⟩, ⟨-1, 0⟩]⟩, ⟨1, [⟨1, 0⟩, ⟨1, 1⟩]⟩, ⟨2, [⟨0, 0⟩, ⟨3, 0⟩]⟩]).map (·.pt) :=
  orderHilbert_perm_invariant (n := 2) 2 (by decide) _ _ (by decide +kernel) (by decide +kernel)
    (by decide +kernel)

/-- … and for the Morton ordering in 2-D -/
example :
    (orderMorton 2 [⟨0, [⟨1, 0⟩, ⟨1, 1⟩]⟩, ⟨1, [⟨0, 0⟩, ⟨3, 0⟩]⟩, ⟨2, [⟨1, 0⟩, ⟨-1, 0⟩]⟩]).map (·.pt) =
    (orderMorton 2 [⟨0, [⟨1, 0⟩, ⟨-1, 0⟩]⟩, ⟨1, [⟨1, 0⟩, ⟨1, 1⟩]⟩, ⟨2, [⟨0, 0⟩, ⟨3, 0⟩]⟩]).map (·.pt) :=
  orderMorton_perm_invariant (n := 2) 2 _ _ (by decide +kernel) (by decide +kernel)
    (by decide +kernel)

/-- four points in general position: `(0,0) (4,0) (0,4) (5,5)` -/
def gp4 : List (Nat × IPt) := [(0, [0, 0]), (1, [4, 0]), (2, [0, 4]), (3, [5, 5])]
/-- the same points listed in another order -/
def gp4' : List (Nat × IPt) := [(3, [5, 5]), (1, [4, 0]), (0, [0, 0]), (2, [0, 4])]

/-- their Delaunay triangulation, evaluated once -/
theorem gp4_bruteDT : bruteDT 2 gp4 = [[0, 1, 2], [1, 2, 3]] := by decide +kernel

example : generalPosition 2 gp4 = true := by decide +kernel
example : bruteDT 2 gp4 = bruteDT 2 gp4' := bruteDT_perm_eq 2 (by decide) (by decide)
example : bruteDT 2 gp4 = [[0, 1, 2], [1, 2, 3]] := gp4_bruteDT

/-- the hypotheses of `certified_unique` are satisfiable -/
example : sameCellSet
    { D := 2, verts := [], cells := [⟨10, [2, 1, 0], none⟩, ⟨11, [3, 1, 2], none⟩] }
    (bruteDT 2 gp4) = true := by
  rw [gp4_bruteDT]
  decide

end DM.C14
