/-
Props/C12.lean — property theorems for C12 (predicates return the exact sign on well-conditioned
input).

Shape: the Rust predicates compute a floating determinant d̃ and classify it with a dead band τ
(`classify`).  The model knows the exact determinant d.  Under the (assumed, see DESIGN §6)
rounding bound |d̃ − d| ≤ ε:
  * if |d| > τ + ε the classifier returns sign d                       (`classify_separated`)
  * if d = 0 and ε ≤ τ the classifier returns 0                         (`classify_zero`)
so `expected τ ε d = some s → classify τ d̃ = s` (`expected_sound`): whenever the driver makes a
claim about a case, every evaluation that respects the bound must give that verdict.
The exact signs under reordering of the vertices (`orient_transposition`, `orient_perm`,
`insphere_perm_invariant`) rest on `det_swap` / `det_perm_uniform` of Lemmas/DetBridge; the lifted
formulation and translation (`lifted_eq_insphere`, `insphereDet_translate`) on Lemmas/LiftedAux.
-/
import DelaunayModel.Model.Pred
import DelaunayModel.Lemmas.DetBridge
import DelaunayModel.Lemmas.LiftedAux
namespace DM.C12

open DM

theorem iabs_le {x e : Int} : iabs x ≤ e ↔ -e ≤ x ∧ x ≤ e := by
  unfold iabs; split <;> omega

theorem lt_iabs {x t : Int} : t < iabs x ↔ x < -t ∨ t < x := by
  unfold iabs; split <;> omega

theorem classify_separated (tol eps d dt : Int) (htol : 0 ≤ tol) (heps : 0 ≤ eps)
    (herr : iabs (dt - d) ≤ eps) (hsep : iabs d > tol + eps) :
    classify tol dt = sgn d := by
  have ⟨h1, h2⟩ := iabs_le.1 herr
  unfold classify sgn
  rcases lt_iabs.1 hsep with h | h
  · rw [if_neg (by omega), if_pos (by omega), if_neg (by omega), if_pos (by omega)]
  · rw [if_pos (by omega), if_pos (by omega)]

theorem classify_zero (tol eps dt : Int) (herr : iabs (dt - 0) ≤ eps) (hle : eps ≤ tol) :
    classify tol dt = 0 := by
  have ⟨h1, h2⟩ := iabs_le.1 herr
  unfold classify
  rw [if_neg (by omega), if_neg (by omega)]

/-- the two ways the oracle commits: a determinant clear of the band, or an exact zero with the
error allowance inside the band -/
theorem expected_eq_some {tol eps d s : Int} (h : expected tol eps d = some s) :
    (iabs d > tol + eps ∧ s = sgn d) ∨ (d = 0 ∧ eps ≤ tol ∧ s = 0) := by
  unfold expected at h
  split at h
  · exact .inl ⟨‹_›, (Option.some.inj h).symm⟩
  · split at h
    · rename_i hz
      simp only [Bool.and_eq_true, beq_iff_eq, decide_eq_true_eq] at hz
      exact .inr ⟨hz.1, hz.2, (Option.some.inj h).symm⟩
    · cases h

theorem expected_sound (tol eps d dt s : Int) (htol : 0 ≤ tol) (heps : 0 ≤ eps)
    (herr : iabs (dt - d) ≤ eps) (h : expected tol eps d = some s) :
    classify tol dt = s := by
  rcases expected_eq_some h with ⟨hsep, rfl⟩ | ⟨rfl, hle, rfl⟩
  · exact classify_separated tol eps d dt htol heps herr hsep
  · exact classify_zero tol eps dt herr hle

/-- two evaluations of the same configuration (two kernels, two formulations with the same exact
determinant) never give opposite strict answers when the oracle commits -/
theorem no_opposite (tol eps d dt₁ dt₂ s : Int) (htol : 0 ≤ tol) (heps : 0 ≤ eps)
    (h₁ : iabs (dt₁ - d) ≤ eps) (h₂ : iabs (dt₂ - d) ≤ eps) (h : expected tol eps d = some s) :
    classify tol dt₁ = classify tol dt₂ := by
  rw [expected_sound tol eps d dt₁ s htol heps h₁ h, expected_sound tol eps d dt₂ s htol heps h₂ h]

/-- the oracle never commits to a wrong sign: a committed verdict is the exact sign -/
theorem expected_is_sign (tol eps d s : Int) (h : expected tol eps d = some s) : s = sgn d := by
  rcases expected_eq_some h with ⟨_, rfl⟩ | ⟨rfl, _, rfl⟩ <;> rfl

theorem orient_transposition {D : Nat} {s : List IPt} (hl : s.length = D + 1)
    (hs : ∀ p ∈ s, p.length = D) {i j : Nat} (hi : i < D + 1) (hj : j < D + 1) (hij : i ≠ j) :
    orientSign (swapAt s i j) = - orientSign s := by
  rw [orientSign, orientDet_swap ⟨hl, hs⟩ hi hj hij, sgn_neg, orientSign]

theorem orient_perm {D : Nat} {s s' : List IPt} (hl : s.length = D + 1)
    (hs : ∀ p ∈ s, p.length = D) (hp : s.Perm s') :
    orientSign s' = orientSign s ∨ orientSign s' = - orientSign s := by
  unfold orientSign
  rcases orientDet_perm ⟨hl, hs⟩ hp with h | h
  · exact Or.inl (congrArg sgn h)
  · exact Or.inr ((congrArg sgn h).trans (sgn_neg _))

/-- the two determinants of `insphereSign` (orientation rows `[p | 1]`; in-sphere rows
`[p | ‖p‖² | 1]` followed by the fixed row of `q`) are made of the same permuted list, so both take
the one sign `ε` of `det_perm_uniform` -/
theorem insphere_perm_invariant {D : Nat} {s s' : List IPt} {q : IPt} (hl : s.length = D + 1)
    (hs : ∀ p ∈ s, p.length = D) (hq : q.length = D) (hp : s.Perm s') :
    insphereSign s' q = insphereSign s q := by
  obtain ⟨ε, hε, H⟩ := det_perm_uniform hp
  have ho : orientDet s' = ε * orientDet s := by
    have := H (D + 1) (· ++ [1]) [] (by rw [List.append_nil]; exact square_orientRows ⟨hl, hs⟩)
    rwa [List.append_nil, List.append_nil] at this
  have hi : insphereDet s' q = ε * insphereDet s q := by
    have hsq := square_insphereRows ⟨hl, hs⟩ hq
    unfold insphereDet insphereRows at *
    rw [List.map_append] at hsq ⊢
    rw [List.map_append]
    exact H (D + 2) _ _ hsq
  unfold insphereSign orientSign
  rw [ho, hi]
  rcases hε with rfl | rfl
  · rw [one_mul, one_mul]
  · rw [neg_one_mul, neg_one_mul, sgn_neg, sgn_neg, neg_mul_neg]

/-- non-vacuity: the oracle commits on a right triangle with legs 4, for the query (1,1) strictly
inside the circumcircle and for the query (4,4) exactly on it -/
example : expected 1 1 (insphereDet [[0,0],[4,0],[0,4]] [1,1]) = some 1 := by decide +kernel
example : expected 1 1 (insphereDet [[0,0],[4,0],[0,4]] [4,4]) = some 0 := by decide +kernel

/-! ### the lifted formulation (`insphere_lifted`) against the standard in-sphere determinant

`liftedRows s q` (Model/Det.lean, used by `predExpect`) is the `(D+1) × (D+1)` matrix of
coordinates relative to the first vertex with the squared norm of the relative vector last;
`insphereRows s q` is the `(D+2) × (D+2)` matrix `[p | ‖p‖² | 1]`.  In every dimension `D` their
exact determinants agree up to the sign `liftedParity D = (−1)^(D+1)` (`-1` for even `D`, `+1` for
odd `D`) — exactly the `parity` factor `predExpect` applies. -/

theorem liftedParity_def (D : Nat) : liftedParity D = if D % 2 == 0 then -1 else 1 := rfl

theorem liftedParity_eq_pow (D : Nat) : liftedParity D = (-1) ^ (D + 1) := by
  rw [pow_succ, ← paritySign_eq, liftedParity]
  split <;> rfl

theorem lifted_eq_insphere {D : Nat} {s : List IPt} {q : IPt} (hl : s.length = D + 1)
    (hs : ∀ p ∈ s, p.length = D) (hq : q.length = D) :
    liftedDet s q = liftedParity D * insphereDet s q := by
  have hx := Simplex.lift ⟨hl, hs⟩ hq
  have hX : ∀ p ∈ s ++ [q], p.length = D :=
    List.forall_mem_append.2 ⟨hs, List.forall_mem_singleton.2 hq⟩
  rw [liftedDet, liftedRows_eq, det_map_lift_edges0 (by simp [hl]) hX,
    insphereDet_eq_orientDet_lift, Measures.orientDet_eq_edges hx, ← liftedParity_eq_pow,
    ← mul_assoc, liftedParity_mul_self, one_mul]

theorem lifted_sign_eq {D : Nat} {s : List IPt} {q : IPt} (hl : s.length = D + 1)
    (hs : ∀ p ∈ s, p.length = D) (hq : q.length = D) :
    sgn (liftedDet s q) = liftedParity D * sgn (insphereDet s q) := by
  rw [lifted_eq_insphere hl hs hq]
  unfold liftedParity
  split
  · rw [neg_one_mul, neg_one_mul, sgn_neg]
  · rw [one_mul, one_mul]

/-- consequently the orientation-normalised lifted sign, as `predExpect` forms it
(`i * parity * o`), is the exact in-sphere sign -/
theorem lifted_sign_normalised {D : Nat} {s : List IPt} {q : IPt} (hl : s.length = D + 1)
    (hs : ∀ p ∈ s, p.length = D) (hq : q.length = D) :
    sgn (liftedDet s q) * liftedParity D * orientSign s = insphereSign s q := by
  rw [lifted_sign_eq hl hs hq, mul_comm (liftedParity D) (sgn _), mul_assoc (sgn _),
    liftedParity_mul_self, mul_one]
  rfl

/-- `lifted_eq_insphere` read from right to left (`liftedParity D` is its own inverse) -/
theorem insphere_eq_lifted {D : Nat} {s : List IPt} {q : IPt} (hl : s.length = D + 1)
    (hs : ∀ p ∈ s, p.length = D) (hq : q.length = D) :
    insphereDet s q = liftedParity D * liftedDet s q := by
  rw [lifted_eq_insphere hl hs hq, ← mul_assoc, liftedParity_mul_self, one_mul]

/-- the lifted rows are made of differences of points, so translation does not change them at all
(`liftedRows_translate`), and `insphere_eq_lifted` carries this over -/
theorem insphereDet_translate {D : Nat} {s : List IPt} {q t : IPt} (hl : s.length = D + 1)
    (hs : ∀ p ∈ s, p.length = D) (hq : q.length = D) (ht : t.length = D) :
    insphereDet (s.map (vadd · t)) (vadd q t) = insphereDet s q := by
  have h' := Simplex.map_vadd ⟨hl, hs⟩ ht
  rw [insphere_eq_lifted h'.1 h'.2 (by simp [vadd, hq, ht]), insphere_eq_lifted hl hs hq, liftedDet,
    liftedDet, liftedRows_translate hs hq ht]

/-- non-vacuity: concrete instances in D = 1, 2, 3 with both sides equal and non-zero -/
example : liftedDet [[1,2],[5,1],[2,7]] [3,3] = -204 ∧
    liftedParity 2 * insphereDet [[1,2],[5,1],[2,7]] [3,3] = -204 := by decide +kernel
example : liftedDet [[3],[7]] [5] = -16 ∧ liftedParity 1 * insphereDet [[3],[7]] [5] = -16 := by
  decide +kernel
example : liftedDet [[1,2,3],[5,1,0],[2,7,1],[0,1,8]] [3,3,3] = -2746 ∧
    liftedParity 3 * insphereDet [[1,2,3],[5,1,0],[2,7,1],[0,1,8]] [3,3,3] = -2746 := by
  -- the 4×4 lifted determinant is evaluated; the 5×5 in-sphere one follows from the theorem
  have h : liftedDet [[1,2,3],[5,1,0],[2,7,1],[0,1,8]] [3,3,3] = -2746 := by decide +kernel
  exact ⟨h, (lifted_eq_insphere (D := 3) rfl (by decide +kernel) rfl).symm.trans h⟩
example : insphereDet ([[1,2],[5,1],[2,7]].map (vadd · [10,-4])) (vadd [3,3] [10,-4]) = 204 ∧
    insphereDet [[1,2],[5,1],[2,7]] [3,3] = 204 := by decide +kernel

end DM.C12
