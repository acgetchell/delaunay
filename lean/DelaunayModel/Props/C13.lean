/-
Props/C13.lean — property theorems for C13 (serialisation round trip: what the document keeps,
what decoding rebuilds, what a successful load guarantees).

 * §1  `facet_data_nb_independent`: the facet data (`allFacets`, `facetDeg`, `facetKey`,
       `facetOthers`) of a complex depend only on the `(id, vs)` pairs of its cells.
 * §2  `assignNeighbors_some_iff`, `assignNeighbors_spec`: `assignNeighbors` succeeds iff no facet
       is over-shared, keeps `(id, vs)` and sets slot `i` from `facetOthers`.
 * §3  `assignNeighbors_unique`: on a Level-1+2 valid complex re-deriving the neighbours reproduces
       every stored slot (slot-wise, for EVERY index `i`).  Literal equality
       `assignNeighbors K = some K.cells` is FALSE in general (`assignNeighbors_not_literal`: a
       valid cell may store an all-empty buffer `some [none, …]`, the rebuild stores `none`); it
       holds under that normalisation (`assignNeighbors_unique_literal`).
 * §4  `decode_encode_eq` (exact value of `decode (encode K)`), `decode_encode` (what is kept:
       dimension, vertex records, cells, every neighbour slot), `decode_encode_eraseInc` (literal round trip modulo incident pointers).
 * §5  `decode_ok_guarantees` (Level 1, no over-shared facet, known vertices, no duplicate cell,
       pairwise distinct vertex uuids)
       + `decode_accepts_incoherent` (known gap F7b).
 * §6  `decode_rejects_*`: concrete rejected documents (incl. `decode_rejects_duplicate_cell`,
       `decode_rejects_duplicate_vertex_uuid`).

Helper lemmas live in Lemmas/SerdeAux.lean.  Everything here is core-only.
-/
import DelaunayModel.Lemmas.SerdeAux
import DelaunayModel.Props.C05
namespace DM.C13

open DM DM.Serde

/-! ## §1 facet data do not see neighbour buffers or vertices -/

/-- `allFacets`, `facetDeg`, `facetKey`, `facetOthers` depend only on the cells' `id` and `vs` —
not on `nb`, not on `K.verts`, not on `K.D` -/
theorem facet_data_nb_independent (K₁ K₂ : Cx)
    (h : K₁.cells.map (fun c => (c.id, c.vs)) = K₂.cells.map (fun c => (c.id, c.vs))) :
    allFacets K₁ = allFacets K₂ ∧
    (∀ key, facetDeg K₁ key = facetDeg K₂ key) ∧
    (∀ c₁ c₂ : Cell, c₁.id = c₂.id → c₁.vs = c₂.vs → ∀ i,
      facetKey c₁ i = facetKey c₂ i ∧ facetOthers K₁ c₁ i = facetOthers K₂ c₂ i) :=
  ⟨allFacets_congr h, facetDeg_congr h,
    fun _ _ hid hv i => ⟨facetKey_congr hv i, facetOthers_congr h hid hv i⟩⟩

/-! ## §2 what `assignNeighbors` computes -/

/-- `assignNeighbors` succeeds exactly when no facet has more than two cells, and then returns the
cells with every neighbour buffer recomputed (`reCell`, Lemmas/SerdeAux) -/
theorem assignNeighbors_some_iff (K : Cx) (cells : List Cell) :
    assignNeighbors K = some cells ↔
      (∀ f ∈ allFacets K, facetDeg K f.1 ≤ 2) ∧ cells = K.cells.map (reCell K) := by
  rw [assignNeighbors_eq_some_iff, C05.facetLe2_iff]

theorem assignNeighbors_none_iff (K : Cx) :
    assignNeighbors K = none ↔ ∃ f ∈ allFacets K, 2 < facetDeg K f.1 := by
  have h : assignNeighbors K = none ↔ facetLe2 K = false := by
    rw [assignNeighbors_eq]
    cases facetLe2 K <;> simp
  rw [h, facetLe2, List.all_eq_false]
  simp only [decide_eq_true_eq, Nat.not_le]

/-- the rebuilt cell keeps id and vertex slots; slot `i` is the unique other carrier of the facet
opposite slot `i`, empty if there is none (or — excluded when `assignNeighbors` succeeds and ids are
unique — more than one) -/
theorem reCell_spec (K : Cx) (c : Cell) :
    (reCell K c).id = c.id ∧ (reCell K c).vs = c.vs ∧
    (∀ i, i < c.vs.length → nbSlot (reCell K c) i =
      match facetOthers K c i with
      | [(n, _)] => some n
      | _ => none) ∧
    (∀ i, c.vs.length ≤ i → nbSlot (reCell K c) i = none) ∧
    (∀ l, (reCell K c).nb = some l → l.length = c.vs.length) :=
  ⟨rfl, rfl, fun _ hi => nbSlot_reCell_lt K c hi, fun _ hi => nbSlot_reCell_ge K c hi,
    reCell_nb_length K c⟩

/-- positional form: the `k`-th result cell comes from the `k`-th stored cell -/
theorem assignNeighbors_spec (K : Cx) (cells : List Cell) (h : assignNeighbors K = some cells) :
    cells.map (fun c => (c.id, c.vs)) = K.cells.map (fun c => (c.id, c.vs)) ∧
    ∀ (k : Nat) (hk : k < K.cells.length) (hk' : k < cells.length) (i : Nat),
      i < K.cells[k].vs.length →
        nbSlot cells[k] i =
          match facetOthers K K.cells[k] i with
          | [(n, _)] => some n
          | _ => none := by
  obtain ⟨_, rfl⟩ := (assignNeighbors_eq_some_iff K cells).1 h
  refine ⟨idVs_map_reCell K K.cells, ?_⟩
  intro k hk hk' i hi
  rw [List.getElem_map]
  exact nbSlot_reCell_lt K _ hi

/-! ## §3 the neighbour relation is determined by facet sharing -/

theorem nbSlot_reCell_eq (K : Cx) (h1 : checkL1 K = true) (h2 : checkL2 K = true) (c : Cell)
    (hc : c ∈ K.cells) (i : Nat) : nbSlot (reCell K c) i = nbSlot c i := by
  obtain ⟨_, hcells⟩ := (C05.checkL1_iff K).1 h1
  have hnbr := ((C05.checkL2_iff K).1 h2).nbr
  obtain ⟨hlen, _, hnbl⟩ := hcells c hc
  by_cases hi : i < c.vs.length
  · rw [nbSlot_reCell_lt K c hi]
    rcases (hnbr c hc).2 i hi with ⟨h0, hs⟩ | ⟨c', j, ho, hs, _⟩
    · rw [h0, hs]
    · rw [ho, hs]
  · have hi' : c.vs.length ≤ i := Nat.le_of_not_lt hi
    rw [nbSlot_reCell_ge K c hi']
    unfold nbSlot
    cases hnb : c.nb with
    | none => rfl
    | some l =>
      dsimp only
      rw [getD_ge _ (by rw [hnbl l hnb, ← hlen]; exact hi')]

theorem assignNeighbors_of_valid (K : Cx) (h2 : checkL2 K = true) :
    assignNeighbors K = some (K.cells.map (reCell K)) :=
  (assignNeighbors_some_iff K _).2 ⟨((C05.checkL2_iff K).1 h2).facetLe2, rfl⟩

/-- **Slot-wise, all indices.**  For a complex passing Levels 1 and 2,
`assignNeighbors` succeeds, returns as many cells, and the `k`-th returned cell has the id, the
vertex slots and — for EVERY index `i`, in range or not — the neighbour slot of the `k`-th stored
cell.  (Literal equality of the cell lists fails only through the `nb := none` normalisation, see
`assignNeighbors_not_literal`.) -/
theorem assignNeighbors_unique (K : Cx) (h1 : checkL1 K = true) (h2 : checkL2 K = true) :
    ∃ cells, assignNeighbors K = some cells ∧ cells.length = K.cells.length ∧
      ∀ (k : Nat) (hk : k < K.cells.length) (hk' : k < cells.length),
        cells[k].id = K.cells[k].id ∧ cells[k].vs = K.cells[k].vs ∧
        ∀ i, nbSlot cells[k] i = nbSlot K.cells[k] i := by
  refine ⟨K.cells.map (reCell K), assignNeighbors_of_valid K h2, by simp, ?_⟩
  intro k hk hk'
  rw [List.getElem_map]
  exact ⟨rfl, rfl, fun i => nbSlot_reCell_eq K h1 h2 _ (List.getElem_mem hk) i⟩

theorem reCell_eq_self (K : Cx) (h1 : checkL1 K = true) (h2 : checkL2 K = true) (c : Cell)
    (hc : c ∈ K.cells) (hn : ∀ l, c.nb = some l → l.all Option.isNone = false) :
    reCell K c = c := by
  obtain ⟨hlen, _, hnbl⟩ := ((C05.checkL1_iff K).1 h1).2 c hc
  -- the rebuilt slots read like the stored ones at every index
  have hslot : ∀ i, (reSlots K c).getD i none = nbSlot c i := fun i =>
    (nbSlot_reCell K c i).symm.trans (nbSlot_reCell_eq K h1 h2 c hc i)
  suffices hnb : (reCell K c).nb = c.nb by
    show ({ id := c.id, vs := c.vs, nb := (reCell K c).nb } : Cell) = c
    rw [hnb]
  show (if (reSlots K c).all Option.isNone then none else some (reSlots K c)) = c.nb
  cases hcn : c.nb with
  | none => rw [if_pos (all_isNone_iff.2 fun i => (hslot i).trans (nbSlot_of_nb_none hcn i))]
  | some l =>
    have hl : reSlots K c = l := by
      refine ext_getD none (by rw [reSlots_length, hnbl l hcn, hlen]) fun i => ?_
      rw [hslot i, nbSlot, hcn]
    rw [hl, hn l hcn]
    rfl

theorem map_reCell_eq_self (K : Cx) (h1 : checkL1 K = true) (h2 : checkL2 K = true)
    (hn : ∀ c ∈ K.cells, ∀ l, c.nb = some l → l.all Option.isNone = false) :
    K.cells.map (reCell K) = K.cells :=
  (List.map_congr_left fun c hc => reCell_eq_self K h1 h2 c hc (hn c hc)).trans (List.map_id _)

/-- **Literal form, under normalisation.**  If no stored cell carries an all-empty neighbour buffer
(`some [none, …, none]` — the Rust stores `None` for those), re-deriving the neighbours of a
Level-1+2 valid complex returns exactly the stored cells. -/
theorem assignNeighbors_unique_literal (K : Cx) (h1 : checkL1 K = true) (h2 : checkL2 K = true)
    (hn : ∀ c ∈ K.cells, ∀ l, c.nb = some l → l.all Option.isNone = false) :
    assignNeighbors K = some K.cells := by
  rw [assignNeighbors_of_valid K h2, map_reCell_eq_self K h1 h2 hn]

def ipt (x y : Int) : Option DPt := some [⟨x, 0⟩, ⟨y, 0⟩]

/-- one triangle that stores an all-empty neighbour buffer instead of no buffer -/
def oneTriBuffered : Cx :=
  { D := 2
    verts := [⟨0, ipt 0 0, some 0⟩, ⟨1, ipt 1 0, some 0⟩, ⟨2, ipt 0 1, some 0⟩]
    cells := [⟨0, [0, 1, 2], some [none, none, none]⟩] }

/-- **Counterexample to literal equality without the normalisation**: a complex valid at Levels 1
and 2 whose rebuilt cell list differs from the stored one (buffer `some [none, none, none]` becomes
`none`). -/
theorem assignNeighbors_not_literal :
    checkL1 oneTriBuffered = true ∧ checkL2 oneTriBuffered = true ∧
    assignNeighbors oneTriBuffered = some [⟨0, [0, 1, 2], none⟩] ∧
    assignNeighbors oneTriBuffered ≠ some oneTriBuffered.cells := by decide +kernel

/-! ## §4 round trip -/

/-- **Exact value of the round trip.**  For a complex valid at Levels 1 and 2, decoding its
encoding succeeds and returns: the same `D`; the cells with recomputed neighbour buffers
(`= assignNeighbors K`); the vertices with the same uuid and coordinates, in order, and incident
pointers recomputed by `assignIncident`. -/
theorem decode_encode_eq (K : Cx) (h1 : checkL1 K = true) (h2 : checkL2 K = true) :
    decode (encode K) = some
      { D := K.D
        verts := assignIncident (K.verts.map (fun v => (v.id, v.pt))) (K.cells.map (reCell K))
        cells := K.cells.map (reCell K) } := by
  -- the loader tests the very Boolean components of Levels 1 and 2 that `h1`, `h2` supply:
  -- unique ids, known vertices, no duplicate cell, no over-shared facet (neighbour pointers,
  -- orientation and incident pointers of `K` are not needed)
  obtain ⟨hids, hex, _, hdup, hle, _, _⟩ := checkL2_parts h2
  obtain ⟨hndv, hnd⟩ := (C05.idsUnique_iff K).1 hids
  simp only [checkL1, Bool.and_eq_true, List.all_eq_true] at h1
  have hvids : ((encode K).verts.map (·.1)).Nodup := by
    simpa [encode, List.map_map, Function.comp_def] using hndv
  have hid : idVs (K.cells.map (reCell K)) = idVs K.cells := idVs_map_reCell K K.cells
  rw [decode_eq_some_iff]
  refine ⟨hvids, idVs K.cells, tableRows_encode K hnd, ?_, (rowsKnown_encode K).trans hex,
    (facetLe2_congr hid).trans hle, ?_, (noDupCells_congr hid).trans hdup⟩
  · unfold builtCx
    rw [rawCells_map_reCell]
    rfl
  -- Level 1 of the rebuilt complex: same coordinates, same vertex slots, buffers of the same length
  simp only [checkL1, Bool.and_eq_true, List.all_eq_true]
  constructor
  · intro v hv
    obtain ⟨x, hx, he⟩ := List.mem_map.1 (mem_assignIncident hv)
    have hx1 := h1.1 x hx
    rwa [Vtx.okL1, (Prod.mk.inj he).2] at hx1
  · intro c' hc'
    obtain ⟨c, hc, rfl⟩ := List.mem_map.1 hc'
    exact okL1_reCell _ K c (h1.2 c hc)

/-- **Round trip.**  For `K` valid at Levels 1 and 2, `decode (encode K)` is some
`K'` with the same dimension, the same vertex uuids and coordinates in the same order, the same
cells (uuid and vertex slots, slot order kept) in the same order, and — cell by cell, for every
slot index — the same neighbour slots; moreover `K'.cells` is exactly what `assignNeighbors K`
returns. -/
theorem decode_encode (K : Cx) (h1 : checkL1 K = true) (h2 : checkL2 K = true) :
    ∃ K', decode (encode K) = some K' ∧ K'.D = K.D ∧
      K'.verts.map (fun v => (v.id, v.pt)) = K.verts.map (fun v => (v.id, v.pt)) ∧
      K'.cells.map (fun c => (c.id, c.vs)) = K.cells.map (fun c => (c.id, c.vs)) ∧
      assignNeighbors K = some K'.cells ∧
      K'.cells.length = K.cells.length ∧
      ∀ (k : Nat) (hk : k < K.cells.length) (hk' : k < K'.cells.length) (i : Nat),
        nbSlot K'.cells[k] i = nbSlot K.cells[k] i := by
  refine ⟨_, decode_encode_eq K h1 h2, rfl, assignIncident_idpt _ _, idVs_map_reCell K K.cells,
    assignNeighbors_of_valid K h2, by simp, ?_⟩
  intro k hk hk' i
  rw [List.getElem_map]
  exact nbSlot_reCell_eq K h1 h2 _ (List.getElem_mem hk) i

/-- **Literal round trip modulo incident pointers.**  If in addition no stored cell carries an
all-empty neighbour buffer, `decode (encode K)` is `K` itself up to the rebuilt incident-cell
pointers (`eraseInc`). -/
theorem decode_encode_eraseInc (K : Cx) (h1 : checkL1 K = true) (h2 : checkL2 K = true)
    (hn : ∀ c ∈ K.cells, ∀ l, c.nb = some l → l.all Option.isNone = false) :
    (decode (encode K)).map eraseInc = some (eraseInc K) := by
  rw [decode_encode_eq K h1 h2, map_reCell_eq_self K h1 h2 hn]
  unfold eraseInc assignIncident
  simp only [Option.map_some, List.map_map]
  rfl

/-! ## §5 what a successful load guarantees — and what it does not -/

/-- whatever the document: a successful `decode` returns a complex that passes Level 1, has no
facet shared by more than two cells, whose cells only name stored vertices, in which no two
cells have the same vertex set (fix F7c), and whose vertex uuids are pairwise distinct (duplicate
vertex uuid rejected) -/
theorem decode_ok_guarantees (doc : Doc) (K : Cx) (h : decode doc = some K) :
    checkL1 K = true ∧
    (∀ f ∈ allFacets K, facetDeg K f.1 ≤ 2) ∧
    (∀ c ∈ K.cells, ∀ v ∈ c.vs, ∃ x ∈ K.verts, x.id = v) ∧
    noDupCells K = true ∧
    (K.verts.map (·.id)).Nodup := by
  obtain ⟨hvnd, cvs, _, rfl, hknown, hle, hl1, hdup⟩ := (decode_eq_some_iff doc K).1 h
  refine ⟨hl1, (C05.facetLe2_iff _).1 hle, ?_, hdup, ?_⟩
  · intro c hc v hv
    have hmem : (c.id, c.vs) ∈ idVs (builtCx doc cvs).cells := List.mem_map_of_mem hc
    rw [idVs_builtCx] at hmem
    obtain ⟨p, hp, hpv⟩ := (rowsKnown_iff doc cvs).1 hknown _ hmem v hv
    obtain ⟨x, hx, hxid, _⟩ := exists_mem_assignIncident (builtCx doc cvs).cells hp
    exact ⟨x, hx, hxid.trans hpv⟩
  · show ((assignIncident doc.verts _).map (·.id)).Nodup
    rw [assignIncident_ids]
    exact hvnd

/-- the loaded complex's cells are exactly the table rows of the listed cells, and its
vertices exactly the document's -/
theorem decode_ok_content (doc : Doc) (K : Cx) (h : decode doc = some K) :
    K.D = doc.D ∧ K.verts.map (fun v => (v.id, v.pt)) = doc.verts ∧
    K.cells.map (·.id) = doc.cells ∧ assignNeighbors K = some K.cells := by
  obtain ⟨_, cvs, hrows, rfl, _, hle, _, _⟩ := (decode_eq_some_iff doc K).1 h
  refine ⟨rfl, assignIncident_idpt _ _, ?_, ?_⟩
  · have e := idVs_builtCx doc cvs
    have : (builtCx doc cvs).cells.map (·.id) = (idVs (builtCx doc cvs).cells).map (·.1) := by
      simp [idVs, List.map_map, Function.comp_def]
    rw [this, e]
    exact tableRows_ids doc cvs hrows
  · -- rebuilding the neighbours of rebuilt cells changes nothing: `reCell` reads `id` and `vs` only
    rw [assignNeighbors_eq_some_iff]
    refine ⟨hle, ?_⟩
    show (rawCells cvs).map (reCell (rawCx doc.D cvs)) =
      ((rawCells cvs).map (reCell (rawCx doc.D cvs))).map (reCell (builtCx doc cvs))
    rw [List.map_map]
    apply List.map_congr_left
    intro c _
    exact (reCell_congr (idVs_builtCx_rawCx doc cvs) rfl rfl).symm

/-- two triangles on the unit square whose second cell lists its vertices as `[1, 2, 3]` (the
coherent order is `[1, 3, 2]`, cf. `C05.twoTri`) -/
def incoherentDoc : Doc :=
  { D := 2
    verts := [(0, ipt 0 0), (1, ipt 1 0), (2, ipt 0 1), (3, ipt 1 1)]
    cells := [0, 1]
    table := [(0, [0, 1, 2]), (1, [1, 2, 3])] }

/-- **Known gap F7b.**  Coherent orientation is NOT among the load guarantees: this document loads
(with the neighbour slots across the shared edge `{1,2}` filled in), the loaded complex passes
Level 1, yet fails Level 2 — precisely its orientation-coherence component. -/
theorem decode_accepts_incoherent :
    (decode incoherentDoc).isSome = true ∧
    (decode incoherentDoc).map (fun K => K.cells) =
      some [⟨0, [0, 1, 2], some [some 1, none, none]⟩, ⟨1, [1, 2, 3], some [none, none, some 0]⟩] ∧
    (decode incoherentDoc).map checkL1 = some true ∧
    (decode incoherentDoc).map checkL2 = some false ∧
    (decode incoherentDoc).map coherent = some false ∧
    (decode incoherentDoc).map (fun K => idsUnique K && vertsExist K && incidentOk K &&
      noDupCells K && facetLe2 K && nbrOk K) = some true := by decide +kernel

/-- the same document with the second cell in coherent order loads into a Level-2 valid complex -/
theorem decode_coherent_ok :
    (decode { incoherentDoc with table := [(0, [0, 1, 2]), (1, [1, 3, 2])] }).map checkL2 =
      some true := by decide +kernel

/-! ## §6 rejected documents (2-D) -/

def sqVerts : List (Nat × Option DPt) := [(0, ipt 0 0), (1, ipt 1 0), (2, ipt 0 1), (3, ipt 1 1)]

/-- a cell listing `D` vertices -/
theorem decode_rejects_too_few :
    (decode { D := 2, verts := sqVerts, cells := [0], table := [(0, [0, 1])] }).isNone = true := by
  decide +kernel

/-- a cell listing `D + 2` vertices -/
theorem decode_rejects_too_many :
    (decode { D := 2, verts := sqVerts, cells := [0], table := [(0, [0, 1, 2, 3])] }).isNone
      = true := by decide +kernel

/-- a cell repeating a vertex -/
theorem decode_rejects_repeated_vertex :
    (decode { D := 2, verts := sqVerts, cells := [0], table := [(0, [0, 1, 1])] }).isNone
      = true := by decide +kernel

/-- a cell naming a vertex uuid that is not stored -/
theorem decode_rejects_unknown_vertex :
    (decode { D := 2, verts := sqVerts, cells := [0], table := [(0, [0, 1, 7])] }).isNone
      = true := by decide +kernel

/-- a listed cell without a table entry -/
theorem decode_rejects_missing_table_entry :
    (decode { D := 2, verts := sqVerts, cells := [0, 1], table := [(0, [0, 1, 2])] }).isNone
      = true := by decide +kernel

/-- three cells sharing the edge `{0, 1}` -/
theorem decode_rejects_overshared_facet :
    (decode { D := 2, verts := sqVerts ++ [(4, ipt 2 2)], cells := [0, 1, 2],
              table := [(0, [0, 1, 2]), (1, [0, 1, 3]), (2, [0, 1, 4])] }).isNone = true := by
  decide +kernel

def dupVerts : List (Nat × Option DPt) := sqVerts ++ [(4, ipt 2 2)]

/-- three cells, the first two with the same three vertex ids; the third touches them only in
vertex `2`.  Every edge is shared by at most two cells, so `assignNeighbors` does not reject. -/
def dupCellDoc : Doc :=
  { D := 2, verts := dupVerts, cells := [0, 1, 2],
    table := [(0, [0, 1, 2]), (1, [0, 1, 2]), (2, [2, 3, 4])] }

/-- **Fix F7c.**  Two cells with the same vertex set: rejected -/
theorem decode_rejects_duplicate_cell : decode dupCellDoc = none := by decide +kernel

/-- … and for that reason only: every listed vertex is stored, no facet is over-shared
(`assignNeighbors` succeeds on the raw cells), the rebuilt complex passes Level 1 — only the
duplicate-cell test fails -/
theorem dupCellDoc_fails_only_noDupCells :
    tableRows dupCellDoc = some dupCellDoc.table ∧
    rowsKnown dupCellDoc dupCellDoc.table = true ∧
    (assignNeighbors (rawCx dupCellDoc.D dupCellDoc.table)).isSome = true ∧
    checkL1 (builtCx dupCellDoc dupCellDoc.table) = true ∧
    noDupCells (builtCx dupCellDoc dupCellDoc.table) = false := by decide +kernel

/-- the duplicate may also list the vertices in another slot order (the mirror-image cell) -/
theorem decode_rejects_duplicate_cell_permuted :
    decode { dupCellDoc with table := [(0, [0, 1, 2]), (1, [1, 0, 2]), (2, [2, 3, 4])] } = none := by
  decide +kernel

/-- the same document with the duplicate cell removed is accepted: the rejection above is due to
the duplicate alone -/
example :
    (decode { dupCellDoc with cells := [0, 2], table := [(0, [0, 1, 2]), (2, [2, 3, 4])] }).isSome
      = true := by decide +kernel

/-- the unit square plus a fifth record `(2, 2)` that reuses uuid `0` of the first record; the
single cell `[0, 1, 2]` is well formed and names stored vertices only -/
def dupVertexUuidDoc : Doc :=
  { D := 2, verts := sqVerts ++ [(0, ipt 2 2)], cells := [0], table := [(0, [0, 1, 2])] }

/-- **Duplicate vertex uuid.**  Two vertex records with the same uuid: rejected -/
theorem decode_rejects_duplicate_vertex_uuid : decode dupVertexUuidDoc = none := by decide +kernel

/-- … and for that reason only: the cell has a table row, every listed vertex is stored, no facet
is over-shared, the rebuilt complex passes Level 1 and has no duplicate cell — only the
vertex-uuid test fails -/
theorem dupVertexUuidDoc_fails_only_vertIdsNodup :
    vertIdsNodup dupVertexUuidDoc = false ∧
    tableRows dupVertexUuidDoc = some dupVertexUuidDoc.table ∧
    rowsKnown dupVertexUuidDoc dupVertexUuidDoc.table = true ∧
    (assignNeighbors (rawCx dupVertexUuidDoc.D dupVertexUuidDoc.table)).isSome = true ∧
    checkL1 (builtCx dupVertexUuidDoc dupVertexUuidDoc.table) = true ∧
    noDupCells (builtCx dupVertexUuidDoc dupVertexUuidDoc.table) = true := by decide +kernel

/-- in general: ANY document in which two vertex records share a uuid is rejected -/
theorem decode_rejects_any_duplicate_vertex_uuid (doc : Doc)
    (h : ¬ (doc.verts.map (·.1)).Nodup) : decode doc = none := by
  unfold decode
  rw [decide_eq_false h]
  rfl

/-- the same document with the duplicate record removed is accepted: the rejection above is due to
the duplicate uuid alone -/
example : (decode { dupVertexUuidDoc with verts := sqVerts }).isSome = true := by decide +kernel

/-- … and so is the same document with the duplicate record given a fresh uuid -/
example :
    (decode { dupVertexUuidDoc with verts := sqVerts ++ [(4, ipt 2 2)] }).isSome = true := by decide +kernel

/-- a vertex with a non-finite coordinate -/
theorem decode_rejects_nonfinite_vertex :
    (decode { D := 2, verts := [(0, ipt 0 0), (1, ipt 1 0), (2, none)], cells := [0],
              table := [(0, [0, 1, 2])] }).isNone = true := by decide +kernel

/-- the plain valid document is accepted (the rejections above are not vacuous) -/
theorem decode_accepts_valid :
    (decode { D := 2, verts := sqVerts, cells := [0], table := [(0, [0, 1, 2])] }).isSome
      = true := by decide +kernel

/-- the cells of `C05.twoTri`, neighbour buffers included, come back literally -/
theorem twoTri_roundtrip :
    (decode (encode C05.twoTri)).map (fun K => K.cells) = some C05.twoTri.cells := by decide +kernel

end DM.C13
