/-
Props/C19.lean — property theorems for C19 (no panic and guaranteed termination on any finite
input).  This is the property least suited to proof: panics, stack depth and allocation are not
expressible in the model.  What IS proved is the bookkeeping of every budget:
 * `loop_budget`, `loop_accounting`: one induction along the run of a repair attempt each, for what
   depends on starting within the flip budget and for what holds from any start; read off them:
 * `loop_flips_bounded`, `loop_done_within_budget`: a repair attempt applies at most
   `maxFlips + 1` flips, and a converged attempt at most `maxFlips`;
 * `loop_never_out_of_fuel`, `loop_iters_bounded`: it terminates — the number of loop iterations is
   at most `queue₀ + (maxFlips + 1)·(E + 1)` for ANY behaviour of the predicates;
 * `defaultMaxFlips_mono`, `defaultMaxFlips_linear`: the default budget is monotone and linear in
   the number of cells;
 * `locate_budget`: `C10.walkSteps` is at most `min fuel (#cells + 1)`.  `walkSteps` is a counter
   defined beside `locateWalk` with the same recursion (one per cell examined); what is bounded is
   that counter, and no theorem ties it to `locateWalk`.  Likewise `C08.rebuild_bounded` bounds
   `rebuildCalls`, a counter beside `Repair.rebuildLoop`; construction retries are bounded by the
   fuel of `Pipeline.retryLoop` (`attempts + 1`); neither is restated here;
 * `insertAttempts_le`: the perturbation loop run with `fuel` more attempts allowed after `used`
   ends with at most `used + fuel` (the library runs it with `fuel = maxPerturb + 1`, `used = 0`);
 * `nonfinite_refused`: the element validator rejects a vertex with a non-finite coordinate (C05).
That the Rust loops actually consult these budgets is observed by the K2 tie (counters reported
by the public statistics), not proved; no-panic is exploration under catch_unwind.
-/
import DelaunayModel.Model.Budget
import DelaunayModel.Props.C10
import DelaunayModel.Props.C05
namespace DM.C19

open DM.Budget

/-- the default budget is `max (cells · (D+1) · m) floor`, with a factor and a floor that depend on
the dimension and the build profile only -/
theorem defaultMaxFlips_eq (D : Nat) (debug : Bool) :
    ∃ m f, m ≤ 8 ∧ f ≤ 4096 ∧
      ∀ cells, defaultMaxFlips D cells debug = max (cells * (D + 1) * m) f := by
  by_cases h4 : (debug && decide (D ≥ 4)) = true
  · exact ⟨4, 4096, by omega, by omega, fun _ => if_pos h4⟩
  · by_cases h3 : (debug && D == 3) = true
    · exact ⟨8, 512, by omega, by omega, fun _ => by
        simp only [defaultMaxFlips, if_neg h4, if_pos h3]⟩
    · exact ⟨4, 512, by omega, by omega, fun _ => by
        simp only [defaultMaxFlips, if_neg h4, if_neg h3]⟩

theorem defaultMaxFlips_mono (D c₁ c₂ : Nat) (debug : Bool) (h : c₁ ≤ c₂) :
    defaultMaxFlips D c₁ debug ≤ defaultMaxFlips D c₂ debug := by
  obtain ⟨m, f, _, _, e⟩ := defaultMaxFlips_eq D debug
  rw [e, e]
  have := Nat.mul_le_mul_right m (Nat.mul_le_mul_right (D + 1) h)
  omega

theorem defaultMaxFlips_linear (D cells : Nat) (debug : Bool) :
    defaultMaxFlips D cells debug ≤ cells * (D + 1) * 8 + 4096 := by
  obtain ⟨m, f, hm, _, e⟩ := defaultMaxFlips_eq D debug
  rw [e]
  have := Nat.mul_le_mul_left (cells * (D + 1)) hm
  omega

def finalSt : Outcome → LoopSt
  | .done s => s
  | .nonConvergent s => s
  | .outOfFuel s => s

/-- accounting, for any fuel and any start: one iteration per unit of fuel, and the potential
`iters + queue` grows by at most `E` per flip and not at all otherwise:
`iters + queue ≤ iters₀ + queue₀ + (flips − flips₀)·E` (written without subtraction) -/
theorem loop_accounting (maxFlips E : Nat) (choice : Nat → Option Nat) (fuel : Nat) (s : LoopSt) :
    (finalSt (loop maxFlips E choice fuel s)).iters ≤ s.iters + fuel ∧
    (finalSt (loop maxFlips E choice fuel s)).iters + (finalSt (loop maxFlips E choice fuel s)).queue
        + s.flips * E
      ≤ s.iters + s.queue + (finalSt (loop maxFlips E choice fuel s)).flips * E := by
  fun_induction loop maxFlips E choice fuel s with
  | case1 s => exact ⟨Nat.le_refl _, Nat.le_refl _⟩  -- no fuel
  | case2 fuel s => exact ⟨Nat.le_add_right _ _, Nat.le_refl _⟩  -- empty queue
  | case3 fuel s hq _ ih =>
    -- no flip: the popped item becomes an iteration
    have hq' : s.queue ≠ 0 := by simpa using hq
    simp only at ih
    omega
  | case4 fuel s hq e _ s' _ =>
    -- the flip that exceeds the budget: one item popped, `min e E` pushed, one flip more
    have hq' : s.queue ≠ 0 := by simpa using hq
    have := Nat.min_le_right e E
    simp only [finalSt, s', Nat.add_mul, Nat.one_mul]
    omega
  | case5 fuel s hq e _ s' _ ih =>
    -- a flip within the budget: the same step, then the rest of the run
    have hq' : s.queue ≠ 0 := by simpa using hq
    have := Nat.min_le_right e E
    simp only [s', Nat.add_mul, Nat.one_mul] at ih ⊢
    omega

/-- the flip budget, from a start within it: at most one flip beyond the budget, none beyond it if
the queue drained, and `fuelFor` is enough fuel -/
theorem loop_budget (maxFlips E : Nat) (choice : Nat → Option Nat) (fuel : Nat) (s : LoopSt)
    (hs : s.flips ≤ maxFlips) :
    (finalSt (loop maxFlips E choice fuel s)).flips ≤ maxFlips + 1 ∧
    (∀ s', loop maxFlips E choice fuel s = .done s' → s'.flips ≤ maxFlips) ∧
    (fuelFor maxFlips E s ≤ fuel → ∀ t, loop maxFlips E choice fuel s ≠ .outOfFuel t) := by
  fun_induction loop maxFlips E choice fuel s with
  | case1 s =>
    -- no fuel: `fuelFor` is positive
    refine ⟨Nat.le_succ_of_le hs, nofun, fun hf => ?_⟩
    unfold fuelFor at hf
    omega
  | case2 fuel s =>
    -- empty queue: done in the start state
    refine ⟨Nat.le_succ_of_le hs, fun s' h => ?_, fun _ _ => nofun⟩
    cases h
    exact hs
  | case3 fuel s hq _ ih =>
    -- no flip: one item and one unit of fuel less
    obtain ⟨hflips, hdone, hfuel⟩ := ih hs
    refine ⟨hflips, hdone, fun hf => hfuel ?_⟩
    have hq' : s.queue ≠ 0 := by simpa using hq
    unfold fuelFor at hf ⊢
    simp only
    omega
  | case4 fuel s hq e _ s' hgt =>
    -- the flip that exceeds the budget ends the run, at `maxFlips + 1` flips
    refine ⟨?_, nofun, fun _ _ => nofun⟩
    simp only [finalSt, s']
    omega
  | case5 fuel s hq e _ s' hle ih =>
    -- a flip within the budget uses up one unit of `maxFlips + 1 - flips`, worth `E + 1` fuel, and
    -- adds at most `E` items
    have hs' : s'.flips ≤ maxFlips := by
      simp only [s'] at hle ⊢
      omega
    obtain ⟨hflips, hdone, hfuel⟩ := ih hs'
    refine ⟨hflips, hdone, fun hf => hfuel ?_⟩
    have := Nat.min_le_right e E
    have : (maxFlips + 1 - s.flips) * (E + 1)
        = (maxFlips + 1 - (s.flips + 1)) * (E + 1) + (E + 1) := by
      rw [← Nat.succ_mul]
      congr 1
      omega
    unfold fuelFor at hf ⊢
    simp only [s']
    omega

theorem loop_flips_bounded (maxFlips E : Nat) (choice : Nat → Option Nat) (fuel : Nat) (s : LoopSt)
    (hs : s.flips ≤ maxFlips) : (finalSt (loop maxFlips E choice fuel s)).flips ≤ maxFlips + 1 :=
  (loop_budget maxFlips E choice fuel s hs).1

theorem loop_done_within_budget (maxFlips E : Nat) (choice : Nat → Option Nat) (fuel : Nat)
    (s s' : LoopSt) (hs : s.flips ≤ maxFlips) (h : loop maxFlips E choice fuel s = .done s') :
    s'.flips ≤ maxFlips :=
  (loop_budget maxFlips E choice fuel s hs).2.1 s' h

/-- with `fuelFor` fuel the loop never runs out: it terminates for every predicate behaviour -/
theorem loop_never_out_of_fuel (maxFlips E : Nat) (choice : Nat → Option Nat) (fuel : Nat) (s : LoopSt)
    (hs : s.flips ≤ maxFlips) (hf : fuelFor maxFlips E s ≤ fuel) :
    ∀ t, loop maxFlips E choice fuel s ≠ .outOfFuel t :=
  (loop_budget maxFlips E choice fuel s hs).2.2 hf

theorem loop_iters_bounded (maxFlips E : Nat) (choice : Nat → Option Nat) (fuel : Nat) (s : LoopSt) :
    (finalSt (loop maxFlips E choice fuel s)).iters ≤ s.iters + fuel :=
  (loop_accounting maxFlips E choice fuel s).1

theorem insertAttempts_le (maxPerturb : Nat) (failsAt : Nat → Bool) (fuel used : Nat) :
    insertAttempts maxPerturb failsAt fuel used ≤ used + fuel := by
  fun_induction insertAttempts maxPerturb failsAt fuel used <;> omega

theorem locate_budget (K : Cx) (emin : Int) (q : IPt) (fuel cur : Nat) :
    DM.C10.walkSteps K emin q fuel cur [] ≤ min fuel (K.cells.length + 1) :=
  DM.C10.walkSteps_le_min K emin q fuel cur

theorem nonfinite_refused (K : Cx) (h : ∃ v ∈ K.verts, v.pt = none) : checkL1 K = false :=
  DM.C05.reject_nonfinite_coordinate K h

/-- non-vacuity: a run that flips at every iteration exceeds the budget after maxFlips+1 flips -/
example : loop 3 2 (fun _ => some 2) 100 ⟨1, 0, 0⟩ = .nonConvergent ⟨5, 4, 4⟩ := by decide +kernel
example : loop 3 2 (fun i => if i < 2 then some 1 else none) 100 ⟨2, 0, 0⟩ = .done ⟨0, 2, 4⟩ := by decide +kernel

/-! ### The work bound of the correspondence check really is implied by the budgets -/

/-- sharp form: every iteration consumes one queue item and only a flip adds items (at most `E`),
and there are at most `maxFlips + 1` flips (`loop_flips_bounded`), so an attempt makes at most
`q0 + (maxFlips + 1)·E` iterations — for ANY fuel and ANY predicate behaviour -/
theorem attempt_iters_le_sharp (maxFlips E q0 : Nat) (choice : Nat → Option Nat) (fuel : Nat) :
    (finalSt (loop maxFlips E choice fuel ⟨q0, 0, 0⟩)).iters ≤ q0 + (maxFlips + 1) * E := by
  have hp := (loop_accounting maxFlips E choice fuel ⟨q0, 0, 0⟩).2
  have hf := loop_flips_bounded maxFlips E choice fuel ⟨q0, 0, 0⟩ (Nat.zero_le _)
  have hm := Nat.mul_le_mul_right E hf
  simp only [Nat.zero_mul, Nat.add_zero, Nat.zero_add] at hp
  omega

/-- the form used by `workBound`: at most `q0 + (maxFlips + 1)·(E + 1)` iterations (no `+ 1`) -/
theorem attempt_iters_le' (maxFlips E q0 : Nat) (choice : Nat → Option Nat) (fuel : Nat) :
    (finalSt (loop maxFlips E choice fuel ⟨q0, 0, 0⟩)).iters ≤ q0 + (maxFlips + 1) * (E + 1) := by
  have h := attempt_iters_le_sharp maxFlips E q0 choice fuel
  have : (maxFlips + 1) * E ≤ (maxFlips + 1) * (E + 1) := Nat.mul_le_mul_left _ (Nat.le_succ E)
  omega

/-- iterations of one whole attempt started on a queue of `q0` items with `fuelFor` fuel (which is
enough: `loop_never_out_of_fuel`) are bounded linearly in `q0` and `maxFlips`, whatever the
predicates (`choice`) do.  The trailing `+ 1` is the spare unit of `fuelFor`; `attempt_iters_le'`
does without it, for any fuel. -/
theorem attempt_iters_le (maxFlips E q0 : Nat) (choice : Nat → Option Nat) :
    (finalSt (loop maxFlips E choice (fuelFor maxFlips E ⟨q0, 0, 0⟩) ⟨q0, 0, 0⟩)).iters
      ≤ q0 + (maxFlips + 1) * (E + 1) + 1 :=
  Nat.le_succ_of_le (attempt_iters_le' maxFlips E q0 choice _)

/-- iterations of one whole repair attempt of the library on a `D`-dimensional complex of `cells`
cells: flip budget `defaultMaxFlips D cells debug`, per-flip enqueue cap
`(new cells of a flip) × itemsPerCell D`, initial queue `q0`, run with `fuelFor` fuel -/
def attemptIters (D cells : Nat) (debug : Bool) (q0 : Nat) (choice : Nat → Option Nat) : Nat :=
  let b := defaultMaxFlips D cells debug
  let e := (if D ≤ 2 then 2 else D + 2) * itemsPerCell D
  (finalSt (loop b e choice (fuelFor b e ⟨q0, 0, 0⟩) ⟨q0, 0, 0⟩)).iters

/-- one attempt whose initial queue holds at most every item of every cell costs at most a sixth
of the attempt part of `workBound` -/
theorem attempt_work_le (D cells : Nat) (debug : Bool) (q0 : Nat) (choice : Nat → Option Nat)
    (hq : q0 ≤ cells * itemsPerCell D) :
    evalsPerItem D * attemptIters D cells debug q0 choice
      ≤ evalsPerItem D *
          (cells * itemsPerCell D
            + (defaultMaxFlips D cells debug + 1)
                * ((if D ≤ 2 then 2 else D + 2) * itemsPerCell D + 1)) :=
  Nat.mul_le_mul_left _
    (Nat.le_trans (attempt_iters_le' _ _ q0 choice _) (Nat.add_le_add_right hq _))

/-- THE WORK BOUND.  One public repair call makes at most six attempts.  Model each attempt by its
initial queue length `a.1` (at most every item of every cell) and the behaviour of the predicates
during it `a.2` (ANY function).  Then the in-sphere evaluations of all attempts together — each
iteration costing at most `evalsPerItem D` — plus the six postcondition sweeps (`2(D + 1)`
evaluations per cell each) are at most `workBound D cells debug`.  The sum over the attempts is a
`List.sum` over a list of length ≤ 6 (core Lean has no `Finset` sum); `work_bounded_six` below is
the same statement for a `Fin 6`-indexed family. -/
theorem work_bounded (D cells : Nat) (debug : Bool) (attempts : List (Nat × (Nat → Option Nat)))
    (hlen : attempts.length ≤ 6) (hq : ∀ a ∈ attempts, a.1 ≤ cells * itemsPerCell D) :
    (attempts.map (fun a => evalsPerItem D * attemptIters D cells debug a.1 a.2)).sum
        + 6 * 2 * (D + 1) * cells
      ≤ workBound D cells debug := by
  unfold workBound
  apply Nat.add_le_add_right
  -- each of the at most six attempts costs at most a sixth of the attempt part
  have h : ∀ x ∈ attempts.map (fun a => evalsPerItem D * attemptIters D cells debug a.1 a.2), x ≤ _ :=
    List.forall_mem_map.2 fun a ha => attempt_work_le D cells debug a.1 a.2 (hq a ha)
  have hs := sum_le_length_mul _ _ h
  rw [List.length_map] at hs
  rw [Nat.mul_assoc]
  exact Nat.le_trans hs (Nat.mul_le_mul_right _ hlen)

/-- `work_bounded` for exactly six attempts, all started on the full queue, indexed by `Fin 6` -/
theorem work_bounded_six (D cells : Nat) (debug : Bool) (choices : Fin 6 → Nat → Option Nat) :
    evalsPerItem D * attemptIters D cells debug (cells * itemsPerCell D) (choices 0)
      + evalsPerItem D * attemptIters D cells debug (cells * itemsPerCell D) (choices 1)
      + evalsPerItem D * attemptIters D cells debug (cells * itemsPerCell D) (choices 2)
      + evalsPerItem D * attemptIters D cells debug (cells * itemsPerCell D) (choices 3)
      + evalsPerItem D * attemptIters D cells debug (cells * itemsPerCell D) (choices 4)
      + evalsPerItem D * attemptIters D cells debug (cells * itemsPerCell D) (choices 5)
      + 6 * 2 * (D + 1) * cells
      ≤ workBound D cells debug := by
  have h := work_bounded D cells debug
    ([choices 0, choices 1, choices 2, choices 3, choices 4, choices 5].map
      fun c => (cells * itemsPerCell D, c))
    (Nat.le_refl 6)
    (fun a ha => by
      obtain ⟨c, _, rfl⟩ := List.mem_map.1 ha
      exact Nat.le_refl _)
  -- the list sum, re-bracketed to the left
  simpa only [List.map_cons, List.map_nil, List.sum_cons, List.sum_nil, Nat.add_zero,
    Nat.add_assoc] using h

theorem workBound_mono (D cells cells' : Nat) (debug : Bool) (h : cells ≤ cells') :
    workBound D cells debug ≤ workBound D cells' debug := by
  have hb := defaultMaxFlips_mono D cells cells' debug h
  unfold workBound
  apply Nat.add_le_add
  · apply Nat.mul_le_mul_left
    apply Nat.add_le_add
    · exact Nat.mul_le_mul_right _ h
    · exact Nat.mul_le_mul_right _ (Nat.add_le_add_right hb 1)
  · exact Nat.mul_le_mul_left _ h

/-- non-vacuity: the concrete bounds the correspondence check uses -/
example : workBound 2 69 true = 74604 := by decide +kernel
example : workBound 3 30 true = 4120500 := by decide +kernel
example : attemptIters 2 1 false 3 (fun _ => none) = 3 := by decide +kernel

end DM.C19
