/-
Props/C07.lean — property theorems for C07 (a bistellar / Pachner move edits the cell set exactly
as its `FlipInfo` says, is undone by the inverse move, and changes facet multiplicities only inside
the union `U = R ∪ I`).

Model: Model/Flip.lean.  `R` = removed face (`|R| = D+2-k`), `I` = inserted face (`|I| = k`),
`U = flipUnion R I`, old cells `U \ {w}` (`w ∈ I`), new cells `U \ {v}` (`v ∈ R`).

 * §1  `flip_count`: the number of cells changes by exactly `|R| - |I|`.
 * §2  `flip_info_exact`: removed cells = `flipOld`, created cells = `flipNew`; `flip_nodup`.
 * §3  `flip_inverse`: the move with `R`, `I` exchanged is legal and restores the cell set
       (as a set: `flip_inverse`; as a multiset: `flip_inverse_perm`).
 * §4  `flip_vertex_set` (both faces have ≥ 2 vertices: vertex set unchanged),
       `flip_k1_adds_vertex` (k = 1), `flip_k1_inverse_removes_vertex` (k = D+1), all three from
       `flip_vertex_after` / `flip_vertex_before`: the vertices after (before) the move are those of
       the kept cells and those of `U` that some new (old) cell does not omit.
 * §5  facet multiplicities: `flip_facet_balance` (exact bookkeeping), `flip_facet_degree_outer`
       (facets not inside `U` keep their multiplicity), `flip_facet_inner_counts` (+ corollaries
       `flip_facet_inner_II`, `_RR`, `_RI`).
 * §6  `flip_inserted_star`: under the full guard `flipGuardFull` (`flipGuardFull_guard`) the star
       of the inserted face afterwards lies within the created cells.
 * §7  non-vacuity: the 2-D edge flip, the 3-D 2→3 / 3→2 flips and a move that only the full guard
       refuses, evaluated by the kernel.
 * §8  (end of file) consistency with Model/Cavity.lean and Model/StarRemoval.lean: the forward
       k = 1 move is the cavity insertion into one cell (`flip_k1_is_cavity`), the inverse k = 1 move
       is the star removal with one fill cell (`flip_k1_inverse_is_starFill`), every move removes and
       inserts regions with the same boundary (`flip_general_is_cavity_like`), round trips.

`flipCells` is an instance of `dropAdd` (Lemmas/CellsAux.lean): count, duplicate-freeness, inverse
and facet balance are its general lemmas.  Helper lemmas live in Lemmas/FlipAux.lean (§8 also uses
the cavity section of Props/C02.lean and the star-removal section of Props/C06.lean).  Everything
here is core-only.
-/
import DelaunayModel.Lemmas.FlipAux
import DelaunayModel.Props.C02
import DelaunayModel.Props.C06
namespace DM.C07

open DM

/-! ## §1 cell count -/

theorem flip_count {D : Nat} {cells : List (List Nat)} {R I : List Nat} (hnd : cells.Nodup)
    (hg : flipGuard D cells R I = true) :
    (flipCells cells R I).length + I.length = cells.length + R.length := by
  have g := (flipGuard_iff D cells R I).1 hg
  have := length_replace (flipNew R I) hnd (flipOld_nodup g.nodup) g.old_mem
  rwa [← flipCells_eq_dropAdd, flipOld_length, flipNew_length] at this

/-! ## §2 the edit is exactly (`flipOld`, `flipNew`) -/

theorem flip_info_exact {D : Nat} {cells : List (List Nat)} {R I : List Nat}
    (hg : flipGuard D cells R I = true) :
    (∀ c, c ∈ flipCells cells R I ↔ (c ∈ cells ∧ c ∉ flipOld R I) ∨ c ∈ flipNew R I) ∧
    (∀ c ∈ flipOld R I, c ∉ flipCells cells R I) := by
  have g := (flipGuard_iff D cells R I).1 hg
  refine ⟨fun c => mem_flipCells, ?_⟩
  intro c ho hc
  rcases mem_flipCells.1 hc with h | h
  · exact h.2 ho
  · exact flipOld_not_flipNew g.nodup ho h

theorem flip_new_fresh {D : Nat} {cells : List (List Nat)} {R I : List Nat}
    (hg : flipGuard D cells R I = true) :
    ∀ c ∈ flipNew R I, c ∈ flipCells cells R I ∧ c ∉ cells := by
  have g := (flipGuard_iff D cells R I).1 hg
  exact fun c hc => ⟨mem_flipCells.2 (Or.inr hc), g.new_not_mem c hc⟩

theorem flip_nodup {D : Nat} {cells : List (List Nat)} {R I : List Nat} (hnd : cells.Nodup)
    (hg : flipGuard D cells R I = true) : (flipCells cells R I).Nodup := by
  have g := (flipGuard_iff D cells R I).1 hg
  rw [flipCells_eq_dropAdd]
  exact dropAdd_nodup hnd (flipNew_nodup g.nodup) fun c hc h => absurd h (g.new_not_mem c hc)

/-! ## §3 the inverse move -/

theorem flip_inverse_guard {D : Nat} {cells : List (List Nat)} {R I : List Nat}
    (hg : flipGuard D cells R I = true) : flipGuard D (flipCells cells R I) I R = true := by
  have g := (flipGuard_iff D cells R I).1 hg
  rw [flipGuard_iff]
  refine ⟨(List.perm_append_comm.nodup_iff).1 g.nodup, g.ine, g.rne, ?_, ?_, ?_⟩
  · have := g.len
    omega
  · rw [flipOld_swap]
    exact fun c hc => mem_flipCells.2 (Or.inr hc)
  · rw [flipNew_swap]
    exact (flip_info_exact hg).2

theorem flip_inverse_perm {D : Nat} {cells : List (List Nat)} {R I : List Nat} (hnd : cells.Nodup)
    (hg : flipGuard D cells R I = true) :
    (flipCells (flipCells cells R I) I R).Perm cells := by
  have g := (flipGuard_iff D cells R I).1 hg
  have h : flipCells (flipCells cells R I) I R =
      cells.filter (fun c => !(flipOld R I).contains c) ++ flipOld R I := by
    -- the inverse move drops the cells of `flipNew R I` and adds those of `flipOld R I`
    rw [flipCells_eq_dropAdd, flipCells_eq_dropAdd, flipOld_swap R I, flipNew_swap R I]
    exact dropAdd_dropAdd _ _ (fun c hc => by simpa using fun h => g.new_not_mem c h hc)
      fun c hc => by simpa using hc
  exact h ▸ filter_not_contains_append_perm hnd (flipOld_nodup g.nodup) g.old_mem

theorem flip_inverse {D : Nat} {cells : List (List Nat)} {R I : List Nat} (hnd : cells.Nodup)
    (hg : flipGuard D cells R I = true) :
    (∀ c, c ∈ flipCells (flipCells cells R I) I R ↔ c ∈ cells) ∧
    flipGuard D (flipCells cells R I) I R = true :=
  ⟨fun _ => (flip_inverse_perm hnd hg).mem_iff, flip_inverse_guard hg⟩

/-! ## §4 vertex set -/

theorem flip_vertex_after {cells : List (List Nat)} {R I : List Nat} {v : Nat} :
    v ∈ vertexSet (flipCells cells R I) ↔
      (∃ c ∈ cells, c ∉ flipOld R I ∧ v ∈ c) ∨ (v ∈ flipUnion R I ∧ ∃ r ∈ R, r ≠ v) := by
  -- membership, and `∃` distributes over the two kinds of cell
  rw [mem_vertexSet, ← exists_mem_flipNew]
  simp only [mem_flipCells, or_and_right, exists_or, and_assoc]

theorem flip_vertex_before {cells : List (List Nat)} {R I : List Nat} {v : Nat}
    (hold : ∀ c ∈ flipOld R I, c ∈ cells) :
    v ∈ vertexSet cells ↔
      (∃ c ∈ cells, c ∉ flipOld R I ∧ v ∈ c) ∨ (v ∈ flipUnion R I ∧ ∃ w ∈ I, w ≠ v) := by
  rw [mem_vertexSet, ← exists_mem_flipOld]
  constructor
  · rintro ⟨c, hc, hv⟩
    by_cases ho : c ∈ flipOld R I
    · exact Or.inr ⟨c, ho, hv⟩
    · exact Or.inl ⟨c, hc, ho, hv⟩
  · rintro (⟨c, hc, _, hv⟩ | ⟨c, hc, hv⟩)
    · exact ⟨c, hc, hv⟩
    · exact ⟨c, hold c hc, hv⟩

theorem flip_vertex_set {D : Nat} {cells : List (List Nat)} {R I : List Nat}
    (hg : flipGuard D cells R I = true) (hR : 2 ≤ R.length) (hI : 2 ≤ I.length) :
    ∀ v, v ∈ vertexSet (flipCells cells R I) ↔ v ∈ vertexSet cells := by
  have g := (flipGuard_iff D cells R I).1 hg
  have hRI := List.nodup_append.1 g.nodup
  intro v
  -- each face has a vertex other than `v`, so every vertex of `U` is in a new and in an old cell
  rw [flip_vertex_after, flip_vertex_before g.old_mem]
  exact or_congr_right (and_congr_right fun _ =>
    iff_of_true (exists_mem_ne_of_two_le hRI.1 hR v) (exists_mem_ne_of_two_le hRI.2.1 hI v))

/-- the guard does not say whether `w` was already used by some other cell, hence the `∨` -/
theorem flip_k1_adds_vertex {D : Nat} {cells : List (List Nat)} {R : List Nat} {w : Nat}
    (hg : flipGuard D cells R [w] = true) (hR : 2 ≤ R.length) :
    ∀ v, v ∈ vertexSet (flipCells cells R [w]) ↔ v ∈ vertexSet cells ∨ v = w := by
  have g := (flipGuard_iff D cells R [w]).1 hg
  intro v
  -- every vertex of `U` is in a new cell; the old cell has all of them but `w`
  rw [flip_vertex_after, flip_vertex_before g.old_mem,
    and_iff_left (exists_mem_ne_of_two_le (List.nodup_append.1 g.nodup).1 hR v)]
  have hw : w ∈ flipUnion R [w] := mem_flipUnion.2 (Or.inr (List.mem_singleton.2 rfl))
  constructor
  · rintro (h | hU)
    · exact Or.inl (Or.inl h)
    · by_cases hvw : v = w
      · exact Or.inr hvw
      · exact Or.inl (Or.inr ⟨hU, w, List.mem_singleton.2 rfl, fun e => hvw e.symm⟩)
  · rintro ((h | h) | rfl)
    · exact Or.inl h
    · exact Or.inr h.1
    · exact Or.inr hw

theorem flip_k1_vertex_present {D : Nat} {cells : List (List Nat)} {R : List Nat} {w : Nat}
    (hg : flipGuard D cells R [w] = true) (hR : 2 ≤ R.length) :
    w ∈ vertexSet (flipCells cells R [w]) :=
  (flip_k1_adds_vertex hg hR w).2 (Or.inr rfl)

theorem flip_k1_inverse_removes_vertex {D : Nat} {cells : List (List Nat)} {I : List Nat} {r : Nat}
    (hg : flipGuard D cells [r] I = true) (hI : 2 ≤ I.length)
    (hstar : ∀ c ∈ cells, r ∈ c → c ∈ flipOld [r] I) :
    ∀ v, v ∈ vertexSet (flipCells cells [r] I) ↔ v ∈ vertexSet cells ∧ v ≠ r := by
  have g := (flipGuard_iff D cells [r] I).1 hg
  intro v
  -- every vertex of `U` is in an old cell; the new cell has all of them but `r`
  rw [flip_vertex_after, flip_vertex_before g.old_mem,
    and_iff_left (exists_mem_ne_of_two_le (List.nodup_append.1 g.nodup).2.1 hI v)]
  constructor
  · rintro (⟨c, hc, ho, hv⟩ | ⟨hU, r', hr', hne⟩)
    · exact ⟨Or.inl ⟨c, hc, ho, hv⟩, fun e => ho (hstar c hc (e ▸ hv))⟩
    · exact ⟨Or.inr hU, fun e => hne (List.mem_singleton.1 hr' ▸ e.symm)⟩
  · rintro ⟨h | hU, hvr⟩
    · exact Or.inl h
    · exact Or.inr ⟨hU, r, List.mem_singleton.2 rfl, fun e => hvr e.symm⟩

/-! ## §5 facet multiplicities -/

theorem flip_facet_balance {D : Nat} {cells : List (List Nat)} {R I : List Nat} (hnd : cells.Nodup)
    (hg : flipGuard D cells R I = true) (f : List Nat) :
    facetCount (flipCells cells R I) f + facetCount (flipOld R I) f =
      facetCount cells f + facetCount (flipNew R I) f := by
  have g := (flipGuard_iff D cells R I).1 hg
  rw [flipCells_eq_dropAdd]
  exact facetCount_replace (flipNew R I) hnd (flipOld_nodup g.nodup) g.old_mem f

theorem flip_facet_degree_outer' {D : Nat} {cells : List (List Nat)} {R I : List Nat}
    (hnd : cells.Nodup) (hg : flipGuard D cells R I = true) (f : List Nat)
    (ho : facetCount (flipOld R I) f = 0) (hn : facetCount (flipNew R I) f = 0) :
    facetCount (flipCells cells R I) f = facetCount cells f := by
  have hb := flip_facet_balance hnd hg f
  omega

theorem flip_facet_degree_outer {D : Nat} {cells : List (List Nat)} {R I : List Nat}
    (hnd : cells.Nodup) (hg : flipGuard D cells R I = true) (f : List Nat)
    (hf : ¬ ∀ x ∈ f, x ∈ flipUnion R I) :
    facetCount (flipCells cells R I) f = facetCount cells f :=
  flip_facet_degree_outer' hnd hg f (facetCount_map_without_eq_zero hf)
    (facetCount_map_without_eq_zero hf)

theorem flip_facet_inner_counts {D : Nat} {cells : List (List Nat)} {R I : List Nat}
    (hg : flipGuard D cells R I = true) {a b : Nat} (ha : a ∈ flipUnion R I)
    (hb : b ∈ flipUnion R I) (hab : a ≠ b) :
    facetCount (flipOld R I) (without (without (flipUnion R I) a) b) =
      (if a ∈ I then 1 else 0) + (if b ∈ I then 1 else 0) ∧
    facetCount (flipNew R I) (without (without (flipUnion R I) a) b) =
      (if a ∈ R then 1 else 0) + (if b ∈ R then 1 else 0) := by
  have g := (flipGuard_iff D cells R I).1 hg
  have hRI := List.nodup_append.1 g.nodup
  have hU := flipUnion_nodup g.nodup
  constructor
  · unfold flipOld
    rw [facetCount_map_without hU (fun _ hx => mem_flipUnion.2 (Or.inr hx)) ha hb hab,
      hRI.2.1.count, hRI.2.1.count]
  · unfold flipNew
    rw [facetCount_map_without hU (fun _ hx => mem_flipUnion.2 (Or.inl hx)) ha hb hab,
      hRI.1.count, hRI.1.count]

/-- both omitted vertices in `I`: the facet is interior to the old cells (shared by two of them)
and gone after the move -/
theorem flip_facet_inner_II {D : Nat} {cells : List (List Nat)} {R I : List Nat}
    (hnd : cells.Nodup) (hg : flipGuard D cells R I = true) {a b : Nat} (ha : a ∈ I) (hb : b ∈ I)
    (hab : a ≠ b) :
    facetCount (flipOld R I) (without (without (flipUnion R I) a) b) = 2 ∧
    facetCount (flipNew R I) (without (without (flipUnion R I) a) b) = 0 ∧
    facetCount (flipCells cells R I) (without (without (flipUnion R I) a) b) + 2 =
      facetCount cells (without (without (flipUnion R I) a) b) := by
  have g := (flipGuard_iff D cells R I).1 hg
  obtain ⟨ho, hn⟩ := flip_facet_inner_counts hg (mem_flipUnion.2 (Or.inr ha))
    (mem_flipUnion.2 (Or.inr hb)) hab
  have hbal := flip_facet_balance hnd hg (without (without (flipUnion R I) a) b)
  rw [if_pos ha, if_pos hb] at ho
  rw [if_neg (not_mem_left_of_nodup_append g.nodup ha),
    if_neg (not_mem_left_of_nodup_append g.nodup hb)] at hn
  rw [ho, hn] at hbal
  exact ⟨ho, hn, hbal⟩

/-- both omitted vertices in `R`: the facet is absent from the old cells and interior to the new
cells (shared by two of them) -/
theorem flip_facet_inner_RR {D : Nat} {cells : List (List Nat)} {R I : List Nat}
    (hnd : cells.Nodup) (hg : flipGuard D cells R I = true) {a b : Nat} (ha : a ∈ R) (hb : b ∈ R)
    (hab : a ≠ b) :
    facetCount (flipOld R I) (without (without (flipUnion R I) a) b) = 0 ∧
    facetCount (flipNew R I) (without (without (flipUnion R I) a) b) = 2 ∧
    facetCount (flipCells cells R I) (without (without (flipUnion R I) a) b) =
      facetCount cells (without (without (flipUnion R I) a) b) + 2 := by
  have g := (flipGuard_iff D cells R I).1 hg
  obtain ⟨ho, hn⟩ := flip_facet_inner_counts hg (mem_flipUnion.2 (Or.inl ha))
    (mem_flipUnion.2 (Or.inl hb)) hab
  have hbal := flip_facet_balance hnd hg (without (without (flipUnion R I) a) b)
  rw [if_neg (not_mem_right_of_nodup_append g.nodup ha),
    if_neg (not_mem_right_of_nodup_append g.nodup hb)] at ho
  rw [if_pos ha, if_pos hb] at hn
  rw [ho, hn] at hbal
  exact ⟨ho, hn, hbal⟩

/-- one omitted vertex in each face: the facet is on the boundary of the move before and after
(one old cell, one new cell), so its multiplicity in the complex is unchanged -/
theorem flip_facet_inner_RI {D : Nat} {cells : List (List Nat)} {R I : List Nat}
    (hnd : cells.Nodup) (hg : flipGuard D cells R I = true) {a b : Nat} (ha : a ∈ R) (hb : b ∈ I) :
    facetCount (flipOld R I) (without (without (flipUnion R I) a) b) = 1 ∧
    facetCount (flipNew R I) (without (without (flipUnion R I) a) b) = 1 ∧
    facetCount (flipCells cells R I) (without (without (flipUnion R I) a) b) =
      facetCount cells (without (without (flipUnion R I) a) b) := by
  have g := (flipGuard_iff D cells R I).1 hg
  obtain ⟨ho, hn⟩ := flip_facet_inner_counts hg (mem_flipUnion.2 (Or.inl ha))
    (mem_flipUnion.2 (Or.inr hb)) (fun e => not_mem_right_of_nodup_append g.nodup ha (e ▸ hb))
  have hbal := flip_facet_balance hnd hg (without (without (flipUnion R I) a) b)
  rw [if_neg (not_mem_right_of_nodup_append g.nodup ha), if_pos hb] at ho
  rw [if_pos ha, if_neg (not_mem_left_of_nodup_append g.nodup hb)] at hn
  rw [ho, hn] at hbal
  exact ⟨ho, hn, Nat.add_right_cancel hbal⟩

/-! ## §6 the inserted face is new: its star after the move lies within the created cells -/

/-- With the full guard (the inserted face `I` is contained in no cell outside the removed star)
every cell of the result that contains all of `I` is one of the created cells: nothing outside
`flipNew R I` is in the star of the inserted face, so its link is the boundary of the simplex `R` — a
sphere — and not two spheres glued along nothing. -/
theorem flip_inserted_star (D : Nat) (cells : List (List Nat)) (R I : List Nat)
    (h : flipGuardFull D cells R I = true) :
    ∀ c ∈ flipCells cells R I, (∀ v ∈ I, v ∈ c) → c ∈ flipNew R I := by
  intro c hc hI
  have hnew := insertedFaceNew_iff.1 (Bool.and_eq_true_iff.1 h).2
  rcases mem_flipCells.1 hc with ⟨hmem, hnot⟩ | hc
  · exact absurd (hnew c hmem hI) hnot
  · exact hc

/-- the full guard implies the basic guard, so every theorem above applies to a fully guarded move -/
theorem flipGuardFull_guard (D : Nat) (cells : List (List Nat)) (R I : List Nat)
    (h : flipGuardFull D cells R I = true) : flipGuard D cells R I = true :=
  (Bool.and_eq_true_iff.1 h).1

/-! ## §7 non-vacuity -/

/-- 2-D edge flip (k = 2): the guard holds -/
theorem ex2d_guard : flipGuard 2 [[0, 1, 2], [1, 2, 3]] [1, 2] [0, 3] = true := by decide +kernel

theorem ex2d_cells : flipCells [[0, 1, 2], [1, 2, 3]] [1, 2] [0, 3] = [[0, 2, 3], [0, 1, 3]] := by
  decide +kernel

theorem ex2d_cells_perm :
    (flipCells [[0, 1, 2], [1, 2, 3]] [1, 2] [0, 3]).Perm [[0, 1, 3], [0, 2, 3]] := by
  rw [ex2d_cells]
  exact List.Perm.swap _ _ _

/-- … and the inverse move is legal and gives back the two original triangles -/
theorem ex2d_inverse :
    flipGuard 2 (flipCells [[0, 1, 2], [1, 2, 3]] [1, 2] [0, 3]) [0, 3] [1, 2] = true ∧
    flipCells (flipCells [[0, 1, 2], [1, 2, 3]] [1, 2] [0, 3]) [0, 3] [1, 2] =
      [[1, 2, 3], [0, 1, 2]] :=
  ⟨flip_inverse_guard ex2d_guard, by decide +kernel⟩

/-- the shared edge `[1,2]` is interior before (count 2) and gone after; the new edge `[0,3]` is
absent before and interior after; the four outer edges keep multiplicity 1 -/
theorem ex2d_facets :
    facetCount [[0, 1, 2], [1, 2, 3]] [1, 2] = 2 ∧
    facetCount (flipCells [[0, 1, 2], [1, 2, 3]] [1, 2] [0, 3]) [1, 2] = 0 ∧
    facetCount [[0, 1, 2], [1, 2, 3]] [0, 3] = 0 ∧
    facetCount (flipCells [[0, 1, 2], [1, 2, 3]] [1, 2] [0, 3]) [0, 3] = 2 ∧
    facetCount [[0, 1, 2], [1, 2, 3]] [0, 1] = 1 ∧
    facetCount (flipCells [[0, 1, 2], [1, 2, 3]] [1, 2] [0, 3]) [0, 1] = 1 := by
  decide +kernel

/-- the 2-D edge flip is refused when the new edge already spans a cell of the complex … -/
theorem ex2d_guard_rejects_existing :
    flipGuard 2 [[0, 1, 2], [1, 2, 3], [0, 1, 3]] [1, 2] [0, 3] = false := by decide +kernel

/-- … and when an old cell is missing -/
theorem ex2d_guard_rejects_missing : flipGuard 2 [[0, 1, 2]] [1, 2] [0, 3] = false := by
  decide +kernel

/-- 3-D 2→3 flip (k = 2): legal, and two tetrahedra become three -/
theorem ex3d_23 :
    flipGuard 3 [[0, 1, 2, 3], [1, 2, 3, 4]] [1, 2, 3] [0, 4] = true ∧
    flipCells [[0, 1, 2, 3], [1, 2, 3, 4]] [1, 2, 3] [0, 4] =
      [[0, 2, 3, 4], [0, 1, 3, 4], [0, 1, 2, 4]] ∧
    (flipCells [[0, 1, 2, 3], [1, 2, 3, 4]] [1, 2, 3] [0, 4]).length = 3 := by
  decide +kernel

/-- 3-D 3→2 flip (k = 3), the inverse of the above: three tetrahedra become two -/
theorem ex3d_32 :
    flipGuard 3 [[0, 2, 3, 4], [0, 1, 3, 4], [0, 1, 2, 4]] [0, 4] [1, 2, 3] = true ∧
    flipCells [[0, 2, 3, 4], [0, 1, 3, 4], [0, 1, 2, 4]] [0, 4] [1, 2, 3] =
      [[1, 2, 3, 4], [0, 1, 2, 3]] := by
  decide +kernel

/-- 2-D 1→3 flip (k = 1): vertex `3` inserted into the triangle `[0,1,2]`, and its inverse -/
theorem ex2d_13 :
    flipGuard 2 [[0, 1, 2]] [0, 1, 2] [3] = true ∧
    flipCells [[0, 1, 2]] [0, 1, 2] [3] = [[1, 2, 3], [0, 2, 3], [0, 1, 3]] ∧
    vertexSet (flipCells [[0, 1, 2]] [0, 1, 2] [3]) = [2, 0, 1, 3] ∧
    flipGuard 2 [[1, 2, 3], [0, 2, 3], [0, 1, 3]] [3] [0, 1, 2] = true ∧
    flipCells [[1, 2, 3], [0, 2, 3], [0, 1, 3]] [3] [0, 1, 2] = [[0, 1, 2]] := by
  decide +kernel

/-- non-vacuity / necessity: a 4-D k=3 move whose inserted triangle {5,6,7} already lies in the
cell {5,6,7,8,9} passes the basic guard but not the full one, and afterwards the triangle has a cell
in its star that the move did not create. -/
def exCells4 : List (List Nat) := [[1,2,3,5,6], [1,2,3,5,7], [1,2,3,6,7], [5,6,7,8,9]]
example : flipGuard 4 exCells4 [1,2,3] [5,6,7] = true := by decide +kernel
example : flipGuardFull 4 exCells4 [1,2,3] [5,6,7] = false := by decide +kernel
example : [5,6,7,8,9] ∈ flipCells exCells4 [1,2,3] [5,6,7] ∧ [5,6,7,8,9] ∉ flipNew [1,2,3] [5,6,7] := by
  decide +kernel
example : flipGuardFull 4 [[1,2,3,5,6], [1,2,3,5,7], [1,2,3,6,7]] [1,2,3] [5,6,7] = true := by
  decide +kernel

end DM.C07

/-! ## §8 The three cell-set models agree where they overlap

Model/Flip.lean (bistellar moves), Model/Cavity.lean (cavity insertion) and Model/StarRemoval.lean
(star removal) describe the same edits of the abstract complex from three sides.  All theorems hold
for every cell list (no bound on size or dimension).  Helper lemmas: Lemmas/FlipAux.lean.

 * §8.1 `flip_k1_is_cavity` (+ `flip_k1_old_cell`, list forms `flip_k1_eq_cavityInsertWith`,
        `flip_k1_eq_cavityInsert_of_sorted`), `flip_k1_cavityStep_ok` (the executable cavity check
        accepts every forward k = 1 move with a fresh vertex)
 * §8.2 `flip_k1_inverse_is_starFill` (+ list form `flip_k1_inverse_eq_starFill`),
        `flip_k1_inverse_starRemoval_ok` (the executable star-removal check accepts it),
        `flip_k1_inverse_needs_star` (the star hypothesis cannot be dropped)
 * §8.3 `flip_general_is_cavity_like`
 * §8.4 `k1_roundtrip_via_models`, `flip_k1_roundtrip_via_models`
 * §8.5 non-vacuity: concrete moves, evaluated by the kernel or instances of the theorems above
-/
namespace DM.C07
open DM

/-! ### §8.1 forward k = 1 move = cavity insertion into one cell -/

theorem flip_k1_old_cell {D : Nat} {cells : List (List Nat)} {R : List Nat} {w : Nat}
    (hg : flipGuard D cells R [w] = true) :
    flipOld R [w] = [sortNat R] ∧ sortNat R = without (flipUnion R [w]) w ∧ sortNat R ∈ cells := by
  have g := (flipGuard_iff D cells R [w]).1 hg
  refine ⟨flipOld_k1 g.nodup, (flipUnion_without_inserted g.nodup).symm, ?_⟩
  apply g.old_mem
  rw [flipOld_k1 g.nodup]
  exact List.mem_singleton.2 rfl

theorem flip_k1_eq_cavityInsertWith {D : Nat} {cells : List (List Nat)} {R : List Nat} {w : Nat}
    (hg : flipGuard D cells R [w] = true) :
    flipCells cells R [w] =
      cavityInsertWith cells [sortNat R] (R.map (without (sortNat R))) w :=
  flipCells_k1_eq cells ((flipGuard_iff D cells R [w]).1 hg).nodup

theorem flip_k1_eq_cavityInsert_of_sorted {D : Nat} {cells : List (List Nat)} {R : List Nat}
    {w : Nat} (hg : flipGuard D cells R [w] = true) (hs : R.Pairwise (· ≤ ·)) :
    flipCells cells R [w] = cavityInsert cells [R] w := by
  have h := ((flipGuard_iff D cells R [w]).1 hg).nodup
  rw [flipCells_k1_eq cells h, sortNat_of_sorted hs, cavityInsert,
    cavityBoundary_single (List.nodup_append.1 h).1]

/-- **a forward k = 1 move is the cavity insertion of `w` with conflict region the one cell
`sortNat R`**: the cavity boundary of a single cell is all its `D+1` facets, and coning `w` over
each of them gives exactly `flipNew R [w]` -/
theorem flip_k1_is_cavity {D : Nat} {cells : List (List Nat)} {R : List Nat} {w : Nat}
    (hg : flipGuard D cells R [w] = true) :
    ∀ x, x ∈ flipCells cells R [w] ↔ x ∈ cavityInsert cells [sortNat R] w :=
  fun _ => (flipCells_k1_perm_cavityInsert cells ((flipGuard_iff D cells R [w]).1 hg).nodup).mem_iff

/-- **the executable cavity check accepts every forward k = 1 move** that inserts a vertex used by
no cell before (the guard alone does not say that `w` is new, cf. `flip_k1_adds_vertex`) -/
theorem flip_k1_cavityStep_ok {D : Nat} {cells : List (List Nat)} {R : List Nat} {w : Nat}
    (hnd : cells.Nodup) (hg : flipGuard D cells R [w] = true) (hfresh : ∀ c ∈ cells, w ∉ c) :
    cavityStepProblem cells (flipCells cells R [w]) w = none := by
  have g := (flipGuard_iff D cells R [w]).1 hg
  have hR : R.Nodup := (List.nodup_append.1 g.nodup).1
  -- the coned facets are the boundary facets of the one removed cell, in the order of `R`
  have hF := map_without_sortNat_perm hR
  rw [flipCells_k1_eq cells g.nodup]
  exact C02.cavityStepProblem_complete_boundary hnd (List.pairwise_singleton _ _)
    (List.forall_mem_singleton.2 (sortNat_lt_sorted hR))
    (List.forall_mem_singleton.2 (flip_k1_old_cell hg).2.2) hfresh
    (hF.nodup_iff.2 (cavityBoundary_nodup _)) (fun e => g.rne (List.map_eq_nil_iff.1 e))
    fun _ => hF.mem_iff

/-! ### §8.2 inverse k = 1 move = star removal with one fill cell -/

theorem flip_k1_inverse_eq_starFill {D : Nat} {cells : List (List Nat)} {I : List Nat} {r : Nat}
    (hg : flipGuard D cells [r] I = true) (hstar : ∀ c ∈ cells, r ∈ c → c ∈ flipOld [r] I) :
    flipCells cells [r] I = starFill cells r [sortNat I] := by
  have g := (flipGuard_iff D cells [r] I).1 hg
  -- the same cell is added, and of the cells present the old ones are those containing `r`
  rw [flipCells_eq_dropAdd, starFill_eq_dropAdd, flipNew_k1_inverse g.nodup]
  refine dropAdd_congr (fun c hc => Bool.eq_iff_iff.2 ?_) _
  rw [List.contains_iff_mem, List.contains_iff_mem]
  exact ⟨flipOld_k1_inverse_contains g.nodup, hstar c hc⟩

/-- **an inverse k = 1 move is the star removal of `r` with fill `[sortNat I]`**, provided the star
of `r` is exactly the `D+1` old cells (what the implementation checks through the size of the vertex
star) -/
theorem flip_k1_inverse_is_starFill {D : Nat} {cells : List (List Nat)} {I : List Nat} {r : Nat}
    (hg : flipGuard D cells [r] I = true) (hstar : ∀ c ∈ cells, r ∈ c → c ∈ flipOld [r] I) :
    ∀ x, x ∈ flipCells cells [r] I ↔ x ∈ starFill cells r [sortNat I] := by
  intro x
  rw [flip_k1_inverse_eq_starFill hg hstar]

/-- **the executable star-removal check accepts every inverse k = 1 move** on a duplicate-free
complex of sorted cells whose removed vertex has exactly the old cells as star (`D ≥ 1`, i.e. the
inserted face has at least two vertices, so that every link vertex is seen in a star cell) -/
theorem flip_k1_inverse_starRemoval_ok {D : Nat} {cells : List (List Nat)} {I : List Nat} {r : Nat}
    (hnd : cells.Nodup) (hs : ∀ c ∈ cells, c.Pairwise (· < ·))
    (hg : flipGuard D cells [r] I = true) (hI : 2 ≤ I.length)
    (hstar : ∀ c ∈ cells, r ∈ c → c ∈ flipOld [r] I) :
    starRemovalProblem cells (flipCells cells [r] I) r = none := by
  have g := (flipGuard_iff D cells [r] I).1 hg
  have hIn : I.Nodup := (List.nodup_append.1 g.nodup).2.1
  have hUr := flipUnion_without_removed_vertex g.nodup
  -- the old cell opposite `w ∈ I` is a star cell of `r`
  have hold : ∀ w ∈ I, without (flipUnion [r] I) w ∈ starOf cells r := fun w hw =>
    have hm : without (flipUnion [r] I) w ∈ flipOld [r] I := mem_flipOld.2 ⟨w, hw, rfl⟩
    mem_starOf.2 ⟨g.old_mem _ hm, flipOld_k1_inverse_contains g.nodup hm⟩
  rw [flip_k1_inverse_eq_starFill hg hstar]
  -- the fill is the one cell `sortNat I`: without `r`, new, on star vertices, all its facets once
  refine C06.starRemovalProblem_complete_interior hnd hs ?_
    (List.forall_mem_singleton.2 fun h =>
      not_mem_right_of_nodup_append g.nodup (List.mem_singleton.2 rfl) (mem_sortNat.1 h))
    (List.forall_mem_singleton.2
      (g.new_not_mem _ (flipNew_k1_inverse g.nodup ▸ List.mem_singleton.2 rfl)))
    (List.pairwise_singleton _ _) (List.forall_mem_singleton.2 fun u hu => ?_) ?_ ?_
  · obtain ⟨w, hw, _⟩ := exists_mem_ne_of_two_le hIn hI r
    exact List.ne_nil_of_mem (hold w hw)
  · obtain ⟨w, hw, hwu⟩ := exists_mem_ne_of_two_le hIn hI u
    exact ⟨_, hold w hw,
      mem_without.2 ⟨mem_flipUnion.2 (Or.inr (mem_sortNat.1 hu)), fun e => hwu e.symm⟩⟩
  · intro f hf
    rw [cellFacets_single] at hf
    obtain ⟨x, hx, rfl⟩ := List.mem_map.1 hf
    exact Or.inl (facetCount_single_facet (sortNat_nodup hIn) hx)
  · -- its boundary is the link of `r`: `(U \ {w}) \ {r} = (U \ {r}) \ {w} = sortNat I \ {w}`
    intro f
    rw [← (map_without_sortNat_perm hIn).mem_iff, mem_linkOf, List.mem_map]
    constructor
    · rintro ⟨w, hw, rfl⟩
      have := mem_starOf.1 (hold w hw)
      exact ⟨_, this.1, this.2, by rw [without_comm, hUr]⟩
    · rintro ⟨c, hc, hrc, rfl⟩
      obtain ⟨w, hw, rfl⟩ := mem_flipOld.1 (hstar c hc hrc)
      exact ⟨w, hw, by rw [without_comm, hUr]⟩

/-- **the star hypothesis is necessary**: `3` has a fourth cell `[3,4,5]` outside the three old
cells; the guard holds, the move leaves `[3,4,5]` in place, the star removal drops it -/
theorem flip_k1_inverse_needs_star :
    flipGuard 2 [[0, 1, 3], [0, 2, 3], [1, 2, 3], [3, 4, 5]] [3] [0, 1, 2] = true ∧
    [3, 4, 5] ∈ flipCells [[0, 1, 3], [0, 2, 3], [1, 2, 3], [3, 4, 5]] [3] [0, 1, 2] ∧
    [3, 4, 5] ∉ starFill [[0, 1, 3], [0, 2, 3], [1, 2, 3], [3, 4, 5]] 3 [sortNat [0, 1, 2]] ∧
    ¬ (∀ x, x ∈ flipCells [[0, 1, 3], [0, 2, 3], [1, 2, 3], [3, 4, 5]] [3] [0, 1, 2] ↔
        x ∈ starFill [[0, 1, 3], [0, 2, 3], [1, 2, 3], [3, 4, 5]] 3 [sortNat [0, 1, 2]]) := by
  refine ⟨by decide +kernel, by decide +kernel, by decide +kernel, fun h => ?_⟩
  exact absurd ((h [3, 4, 5]).1 (by decide +kernel)) (by decide +kernel)

/-! ### §8.3 every move: remove a region, add a region with the same boundary -/

/-- **every bistellar move is a "remove a region, add cells" step with the facet bookkeeping of the
cavity model**: the result is the kept cells plus `flipNew`, and the removed region `flipOld R I`
and the inserted region `flipNew R I` have the same boundary facets — the facets `U \ {a, b}` with
`a ∈ R`, `b ∈ I` (the two halves of the boundary of the `(D+1)`-simplex on `U` share their common
boundary).  Together with `flip_facet_balance` this is why a move keeps every facet degree outside
the two regions and on their common boundary (`flip_facet_inner_RI`). -/
theorem flip_general_is_cavity_like {D : Nat} {cells : List (List Nat)} {R I : List Nat}
    (hg : flipGuard D cells R I = true) :
    flipCells cells R I = cells.filter (fun c => !(flipOld R I).contains c) ++ flipNew R I ∧
    (∀ f, f ∈ cavityBoundary (flipOld R I) ↔ f ∈ cavityBoundary (flipNew R I)) ∧
    (∀ f, f ∈ cavityBoundary (flipOld R I) ↔
      ∃ a ∈ R, ∃ b ∈ I, f = without (without (flipUnion R I) a) b) := by
  have g := (flipGuard_iff D cells R I).1 hg
  exact ⟨rfl, flip_region_boundary_iff g.nodup, fun f => mem_cavityBoundary_flipOld g.nodup⟩

theorem flip_region_boundary_count {D : Nat} {cells : List (List Nat)} {R I : List Nat}
    (hg : flipGuard D cells R I = true) (f : List Nat) :
    facetCount (flipOld R I) f = 1 ↔ facetCount (flipNew R I) f = 1 := by
  rw [← mem_cavityBoundary, ← mem_cavityBoundary]
  exact (flip_general_is_cavity_like hg).2.1 f

/-! ### §8.4 round trips -/

theorem k1_roundtrip_via_models {cells : List (List Nat)} {c : List Nat} {w : Nat} (hc : c ∈ cells)
    (hfresh : ∀ c' ∈ cells, w ∉ c') :
    ∀ x, x ∈ starFill (cavityInsert cells [c] w) w [c] ↔ x ∈ cells :=
  C06.starFill_cavity_inverse (fun _ hc' => (List.mem_singleton.1 hc') ▸ hc) hfresh

/-- the k = 1 move followed by its inverse, in the flip model, is the cavity insertion followed by
the star removal, in the other two models (cell by cell) — and both give back the original cells -/
theorem flip_k1_roundtrip_via_models {D : Nat} {cells : List (List Nat)} {R : List Nat} {w : Nat}
    (hg : flipGuard D cells R [w] = true) (hfresh : ∀ c ∈ cells, w ∉ c) :
    (∀ x, x ∈ flipCells (flipCells cells R [w]) [w] R ↔
      x ∈ starFill (cavityInsert cells [sortNat R] w) w [sortNat R]) ∧
    (∀ x, x ∈ starFill (cavityInsert cells [sortNat R] w) w [sortNat R] ↔ x ∈ cells) := by
  have hstar : ∀ c ∈ flipCells cells R [w], w ∈ c → c ∈ flipOld [w] R := by
    intro c hc hw
    rw [flipOld_swap]
    rcases mem_flipCells.1 hc with h | h
    · exact absurd hw (hfresh c h.1)
    · exact h
  refine ⟨fun x => ?_, k1_roundtrip_via_models (flip_k1_old_cell hg).2.2 hfresh⟩
  rw [flip_k1_inverse_is_starFill (flip_inverse_guard hg) hstar x, C06.starFill_mem,
    C06.starFill_mem, flip_k1_is_cavity hg x]

/-! ### §8.5 non-vacuity -/

/-- 2-D, k = 1: `9` inserted into `[0,1,2]` next to `[1,2,3]`: the move and the cavity insertion
give the same three new triangles, and the executable cavity check accepts the move -/
theorem ex_consist_k1_2d :
    flipGuard 2 [[0, 1, 2], [1, 2, 3]] [0, 1, 2] [9] = true ∧
    flipCells [[0, 1, 2], [1, 2, 3]] [0, 1, 2] [9] = [[1, 2, 3], [1, 2, 9], [0, 2, 9], [0, 1, 9]] ∧
    cavityInsert [[0, 1, 2], [1, 2, 3]] [[0, 1, 2]] 9 =
      [[1, 2, 3], [1, 2, 9], [0, 2, 9], [0, 1, 9]] ∧
    cavityBoundary [[0, 1, 2]] = [[1, 2], [0, 2], [0, 1]] ∧
    cavityStepProblem [[0, 1, 2], [1, 2, 3]] (flipCells [[0, 1, 2], [1, 2, 3]] [0, 1, 2] [9]) 9
      = none := by
  have hg : flipGuard 2 [[0, 1, 2], [1, 2, 3]] [0, 1, 2] [9] = true := by decide +kernel
  exact ⟨hg, by decide +kernel, by decide +kernel, by decide +kernel,
    flip_k1_cavityStep_ok (by decide +kernel) hg (by decide +kernel)⟩

/-- the same with the removed face given unsorted: same cells, other order -/
theorem ex_consist_k1_2d_unsorted :
    flipCells [[0, 1, 2], [1, 2, 3]] [2, 0, 1] [9] = [[1, 2, 3], [0, 1, 9], [1, 2, 9], [0, 2, 9]] ∧
    cavityInsert [[0, 1, 2], [1, 2, 3]] [sortNat [2, 0, 1]] 9 =
      [[1, 2, 3], [1, 2, 9], [0, 2, 9], [0, 1, 9]] := by
  decide +kernel

/-- 2-D, the inverse: `9` removed again; the move and the star removal give the same cells, and the
executable star-removal check accepts the move -/
theorem ex_consist_k1_inverse_2d :
    flipGuard 2 [[1, 2, 3], [1, 2, 9], [0, 2, 9], [0, 1, 9]] [9] [0, 1, 2] = true ∧
    (∀ c ∈ [[1, 2, 3], [1, 2, 9], [0, 2, 9], [0, 1, 9]], 9 ∈ c → c ∈ flipOld [9] [0, 1, 2]) ∧
    flipCells [[1, 2, 3], [1, 2, 9], [0, 2, 9], [0, 1, 9]] [9] [0, 1, 2] = [[1, 2, 3], [0, 1, 2]] ∧
    starFill [[1, 2, 3], [1, 2, 9], [0, 2, 9], [0, 1, 9]] 9 [sortNat [0, 1, 2]] =
      [[1, 2, 3], [0, 1, 2]] ∧
    starRemovalProblem [[1, 2, 3], [1, 2, 9], [0, 2, 9], [0, 1, 9]]
      (flipCells [[1, 2, 3], [1, 2, 9], [0, 2, 9], [0, 1, 9]] [9] [0, 1, 2]) 9 = none := by
  have hg : flipGuard 2 [[1, 2, 3], [1, 2, 9], [0, 2, 9], [0, 1, 9]] [9] [0, 1, 2] = true := by
    decide +kernel
  have hstar : ∀ c ∈ [[1, 2, 3], [1, 2, 9], [0, 2, 9], [0, 1, 9]], 9 ∈ c →
      c ∈ flipOld [9] [0, 1, 2] := by decide +kernel
  exact ⟨hg, hstar, by decide +kernel, by decide +kernel,
    flip_k1_inverse_starRemoval_ok (by decide +kernel) (by decide +kernel) hg (by decide +kernel)
      hstar⟩

/-- 3-D, k = 1 and back: `7` inserted into `[0,1,2,3]` next to `[1,2,3,4]` -/
theorem ex_consist_k1_3d :
    flipGuard 3 [[0, 1, 2, 3], [1, 2, 3, 4]] [0, 1, 2, 3] [7] = true ∧
    flipCells [[0, 1, 2, 3], [1, 2, 3, 4]] [0, 1, 2, 3] [7] =
      cavityInsert [[0, 1, 2, 3], [1, 2, 3, 4]] [[0, 1, 2, 3]] 7 ∧
    flipCells (flipCells [[0, 1, 2, 3], [1, 2, 3, 4]] [0, 1, 2, 3] [7]) [7] [0, 1, 2, 3] =
      starFill (cavityInsert [[0, 1, 2, 3], [1, 2, 3, 4]] [[0, 1, 2, 3]] 7) 7 [[0, 1, 2, 3]] ∧
    starFill (cavityInsert [[0, 1, 2, 3], [1, 2, 3, 4]] [[0, 1, 2, 3]] 7) 7 [[0, 1, 2, 3]] =
      [[1, 2, 3, 4], [0, 1, 2, 3]] := by
  have hg : flipGuard 3 [[0, 1, 2, 3], [1, 2, 3, 4]] [0, 1, 2, 3] [7] = true := by decide +kernel
  exact ⟨hg, flip_k1_eq_cavityInsert_of_sorted hg (by decide +kernel), by decide +kernel,
    by decide +kernel⟩

/-- the 2-2 flip of `ex2d_cells`: the two removed triangles and the two created triangles have the
same four boundary edges -/
theorem ex_consist_22_boundary :
    cavityBoundary (flipOld [1, 2] [0, 3]) = [[2, 3], [1, 3], [0, 2], [0, 1]] ∧
    cavityBoundary (flipNew [1, 2] [0, 3]) = [[2, 3], [0, 2], [1, 3], [0, 1]] ∧
    (∀ f ∈ [[0, 1], [0, 2], [1, 3], [2, 3]],
      f ∈ cavityBoundary (flipOld [1, 2] [0, 3]) ∧ f ∈ cavityBoundary (flipNew [1, 2] [0, 3])) ∧
    [1, 2] ∉ cavityBoundary (flipOld [1, 2] [0, 3]) ∧
    [0, 3] ∉ cavityBoundary (flipNew [1, 2] [0, 3]) := by
  decide +kernel

/-- the 3-D 2→3 flip of `ex3d_23`: both regions are bounded by the same six triangles -/
theorem ex_consist_23_boundary :
    cavityBoundary (flipOld [1, 2, 3] [0, 4]) =
      [[2, 3, 4], [1, 3, 4], [1, 2, 4], [0, 2, 3], [0, 1, 3], [0, 1, 2]] ∧
    cavityBoundary (flipNew [1, 2, 3] [0, 4]) =
      [[2, 3, 4], [0, 2, 3], [1, 3, 4], [0, 1, 3], [1, 2, 4], [0, 1, 2]] := by
  decide +kernel

end DM.C07
