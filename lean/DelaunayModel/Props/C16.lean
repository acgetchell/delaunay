/-
Props/C16.lean — property theorems for C16 (toroidal construction wraps points correctly).

Wrap laws, exact: for a positive period `L` and any `x` (integers — every finite set of f64
coordinates and periods can be scaled to integers by a common power of two; `wrap_int_bridge`
ties the executable rational `wrap` of Model/Wrap to `Int.emod` on such inputs):
  * `wrap_range`      0 ≤ wrap L x < L          (the half-open box; the face x = L maps to 0)
  * `wrap_congruent`  x − wrap L x is an integer multiple of L
  * `wrap_idem`       wrap L (wrap L x) = wrap L x
  * `wrap_unique`     the only point of [0, L) congruent to x is wrap L x
  * `wrap_periodic`   wrap L (x + k·L) = wrap L x
What is NOT proved: the f64 evaluation (`rem_euclid` rounds; the pinned code returned `L` itself
for tiny negative inputs — finding F3, fixed); the tie is K1 with a stated rounding allowance.
The periodic (image-point) mode's closed-surface bookkeeping is checked per run only.
-/
import DelaunayModel.Model.Wrap
namespace DM.C16

open DM DM.Wrap

def wrapInt (L x : Int) : Int := x % L

theorem wrap_range (L x : Int) (hL : 0 < L) : 0 ≤ wrapInt L x ∧ wrapInt L x < L :=
  ⟨Int.emod_nonneg x (by omega), Int.emod_lt_of_pos x hL⟩

theorem wrap_congruent (L x : Int) : ∃ k : Int, x - wrapInt L x = k * L :=
  ⟨x / L, by rw [wrapInt, Int.emod_def, Int.sub_sub_self, Int.mul_comm]⟩

theorem wrap_idem (L x : Int) : wrapInt L (wrapInt L x) = wrapInt L x := by
  unfold wrapInt
  exact Int.emod_emod_of_dvd x (Int.dvd_refl L)

theorem wrap_periodic (L x k : Int) : wrapInt L (x + k * L) = wrapInt L x := by
  unfold wrapInt
  exact Int.add_mul_emod_self_right x k L

theorem wrap_unique (L x y k : Int) (h0 : 0 ≤ y) (h1 : y < L) (hk : x - y = k * L) :
    y = wrapInt L x := by
  unfold wrapInt
  have hx : x = y + k * L := by omega
  rw [hx, Int.add_mul_emod_self_right]
  exact (Int.emod_eq_of_lt h0 h1).symm

/-- the face `x = L` (and every multiple of `L`) maps to 0, never to `L` -/
theorem wrap_face (L k : Int) : wrapInt L (k * L) = 0 := by
  unfold wrapInt; exact Int.mul_emod_left k L

/-- bridge: on integer inputs the executable rational wrap of Model/Wrap is `Int.emod` -/
theorem wrap_int_bridge (l n : Int) :
    (wrap ⟨l, 1⟩ ⟨n, 1⟩).num = n - (n / l) * l ∧ (wrap ⟨l, 1⟩ ⟨n, 1⟩).den = 1 := by
  refine ⟨?_, rfl⟩
  show (Q.sub ⟨n, 1⟩ (Q.mul (Q.ofInt (floorDiv ⟨n, 1⟩ ⟨l, 1⟩)) ⟨l, 1⟩)).num = _
  simp only [Q.sub, Q.add, Q.neg, Q.mul, Q.ofInt, floorDiv, Nat.mul_one, Int.natCast_one,
    Int.mul_one, Int.one_mul, Int.sub_eq_add_neg]

theorem wrap_int_bridge_emod (l n : Int) : (wrap ⟨l, 1⟩ ⟨n, 1⟩).num = wrapInt l n := by
  rw [(wrap_int_bridge l n).1, wrapInt, Int.emod_def, Int.mul_comm]

/-- canonicalisation rebuilds the vertex with the same UUID and data (model of
`canonicalize_vertices`, builder.rs:708): only the coordinates change -/
structure VRec where
  uuid : Nat
  data : Int
  coords : List Int

def canonicalize (periods : List Int) (v : VRec) : VRec :=
  { v with coords := List.zipWith wrapInt periods v.coords }

theorem canonicalize_keeps_identity (ps : List Int) (v : VRec) :
    (canonicalize ps v).uuid = v.uuid ∧ (canonicalize ps v).data = v.data := ⟨rfl, rfl⟩

theorem canonicalize_idem (ps : List Int) (v : VRec) (hl : ps.length = v.coords.length) :
    canonicalize ps (canonicalize ps v) = canonicalize ps v := by
  unfold canonicalize
  simp only [VRec.mk.injEq, true_and]
  apply List.ext_getElem
  · simp
  · intro i h1 h2
    simp only [List.getElem_zipWith]
    exact wrap_idem _ _

example : wrapInt 8 (-1) = 7 ∧ wrapInt 8 8 = 0 ∧ wrapInt 8 21 = 5 ∧ wrapInt 8 (-16) = 0 := by decide +kernel

end DM.C16
