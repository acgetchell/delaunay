/-
Props/C06.lean — property theorems for C06 (vertex removal yields a valid triangulation minus
that vertex, or no change).

 * `remove_unknown_noop`: unknown UUID ⇒ `Ok(0)` and the state is untouched.
 * `remove_err_unchanged`: any `Err` leaves the state untouched (transactional guard).
 * `remove_ok_valid_or_empty`: on `Ok` with a known UUID the new state has no cells or passed
   Level 3 — for EVERY behaviour of the fan retriangulation / flip repair (a parameter).
 * `removeUuid_*`: bookkeeping — exactly the entries with that UUID disappear, all others keep
   uuid, coordinate bits and data, order preserved.
Known findings kept outside the theorem (see known_findings.json): the `no cells` branch can be
reached with more than D vertices left (F8a), and a hull-vertex removal can return a Level-3-valid
but non-convex, non-Delaunay complex (F8b).  Both are states the model's `unguarded` parameter is
free to produce; the K3 tie reports them.
 * star-removal section (end of file, Model/StarRemoval.lean): the CELL-SET edit of the removal
   (drop the star of `v`, add fill cells on the link vertices — fan retriangulation or the inverse
   k=1 move), the dual of the cavity section of Props/C02.lean — membership, count, which vertices
   survive (`starFill_link_vertex_lost`), facet degrees, the inverse relation with cavity insertion,
   and the executable step check `starRemovalProblem` (sound; complete for the cell list the model
   computes, not for its reorderings).  Which fill is chosen (geometry) stays a parameter.
-/
import DelaunayModel.Model.Remove
import DelaunayModel.Lemmas.StarRemovalAux
namespace DM.C06

open DM.Remove

variable {S : Type}

theorem remove_unknown_noop (env : Env S) (s : S) (u : Nat)
    (h : ∀ v ∈ env.verts s, v.1 ≠ u) : removeVertex env s u = (.ok 0, s) := by
  unfold removeVertex
  have : (env.verts s).any (fun v => v.1 == u) = false := by
    simp only [List.any_eq_false, beq_iff_eq]
    intro v hv; exact h v hv
  simp [this]

theorem remove_err_unchanged (env : Env S) (s : S) (u : Nat) (e : String) (s' : S)
    (h : removeVertex env s u = (.error e, s')) : s' = s := by
  unfold removeVertex at h
  split at h
  · simp at h
  · split at h
    · injection h with _ h2; exact h2.symm
    · split at h
      · simp at h
      · injection h with _ h2; exact h2.symm

theorem remove_ok_valid_or_empty (env : Env S) (s : S) (u : Nat) (n : Nat) (s' : S)
    (hk : ∃ v ∈ env.verts s, v.1 = u)
    (h : removeVertex env s u = (.ok n, s')) :
    ∃ m, env.unguarded s u = .ok (s', m) ∧ m = n ∧ (env.hasCells s' = false ∨ env.level3 s' = true) := by
  have hany : (env.verts s).any (fun v => v.1 == u) = true := by
    obtain ⟨v, hv, hu⟩ := hk
    exact List.any_eq_true.2 ⟨v, hv, beq_iff_eq.2 hu⟩
  rw [removeVertex, hany, if_neg (by decide)] at h
  cases hu : env.unguarded s u with
  | error e => rw [hu] at h; cases h
  | ok r =>
    obtain ⟨s1, m⟩ := r
    rw [hu] at h
    dsimp only at h
    -- the new state is returned only behind the check
    split at h <;> cases h
    rename_i hc
    exact ⟨_, rfl, rfl, by simpa using hc⟩

theorem removeUuid_mem (V : List VRec) (u : Nat) (v : VRec) :
    v ∈ removeUuid V u ↔ v ∈ V ∧ v.1 ≠ u := by
  simp [removeUuid]

theorem removeUuid_gone (V : List VRec) (u : Nat) : ∀ v ∈ removeUuid V u, v.1 ≠ u := by
  intro v hv; exact ((removeUuid_mem V u v).1 hv).2

theorem removeUuid_sublist (V : List VRec) (u : Nat) : (removeUuid V u).Sublist V := by
  unfold removeUuid; exact List.filter_sublist

theorem removeUuid_unknown (V : List VRec) (u : Nat) (h : ∀ v ∈ V, v.1 ≠ u) : removeUuid V u = V := by
  unfold removeUuid
  rw [List.filter_eq_self]
  intro v hv; simpa using h v hv

theorem removeUuid_length (V : List VRec) (u : Nat) (hnd : (V.map (·.1)).Nodup)
    (hk : ∃ v ∈ V, v.1 = u) : (removeUuid V u).length + 1 = V.length := by
  -- exactly one entry has the uuid `u`: it is counted once among the distinct keys
  have h1 : V.countP (fun v => v.1 == u) = 1 := by
    have hm : u ∈ V.map (·.1) := by
      obtain ⟨v, hv, rfl⟩ := hk
      exact List.mem_map_of_mem hv
    have := hnd.count (a := u)
    rwa [if_pos hm, List.count_eq_countP, List.countP_map] at this
  rw [removeUuid, ← List.countP_eq_length_filter,
    List.length_eq_countP_add_countP (fun v => v.1 == u), h1, Nat.add_comm]
  exact congrArg (1 + ·) (List.countP_congr fun v _ => by simp)

/-- non-vacuity: a removal whose unguarded step yields a Level-3-valid state commits it; one that
yields an invalid state is rolled back -/
example : removeVertex (S := Nat)
    { verts := fun _ => [(7, [], 0)], unguarded := fun s _ => .ok (s + 1, 3),
      hasCells := fun _ => true, level3 := fun s => s == 1 } 0 7 = (.ok 3, 1) := by rfl
example : (removeVertex (S := Nat)
    { verts := fun _ => [(7, [], 0)], unguarded := fun s _ => .ok (s + 1, 3),
      hasCells := fun _ => true, level3 := fun _ => false } 0 7).2 = 0 := by rfl

end DM.C06

/-! ## The star removal (`Triangulation::remove_vertex`: fan fill / inverse k=1) on the abstract complex

Model: Model/StarRemoval.lean — drop the cells containing `v` (`starOf cells v`), add the cells
`fill` (`starFill`).  The dual of the cavity step of Props/C02.lean.  All theorems hold for every cell
list (no bound on size or dimension).  Hypotheses are stated where they are used: cells are sorted
duplicate-free lists (`Pairwise (· < ·)`), `cells.Nodup`, the fill cells do not contain `v` and are
not kept cells.

 * §s1 `starFill_mem`, `starFill_vertex_gone`, `starFill_other_cells_kept`
 * §s2 `starFill_length_add`, `starFill_nodup`, `starFill_count`
 * §s3 `starFill_vertex_kept_iff`, `starFill_link_vertex_lost` (the isolated-vertex hazard)
 * §s4 facet degrees: `starFill_facet_degree(_add,_link)`, `starFill_facet_degree_le_two(_link)`
 * §s5 inverse of the cavity insertion: `starFill_cavity_inverse(_perm)`, `cavity_starFill_inverse`
       (as lists: `starFill_cavityInsertWith_eq`, `cavityInsertWith_starFill_eq`)
 * §s6 the executable step check: `starRemovalProblem_none_iff`, `_none_sound`, `_none_interior`,
       `_complete`, `_complete_interior`, `starRemoval_facet_degree_le_two`
 * §s7 non-vacuity: concrete steps, evaluated by the kernel
The step is an instance of `dropAdd` (Lemmas/CellsAux.lean).  Helper lemmas:
Lemmas/StarRemovalAux.lean.  Core only.
-/
namespace DM.C06
open DM

/-! ### §s1 membership -/

theorem starFill_mem (cells fill : List (List Nat)) (v : Nat) (x : List Nat) :
    x ∈ starFill cells v fill ↔ (x ∈ cells ∧ v ∉ x) ∨ x ∈ fill := by
  rw [starFill_eq, List.mem_append, mem_starKept]

theorem starFill_vertex_gone (cells : List (List Nat)) {fill : List (List Nat)} {v : Nat}
    (hvF : ∀ c ∈ fill, v ∉ c) : ∀ x ∈ starFill cells v fill, v ∉ x := by
  intro x hx
  rcases (starFill_mem cells fill v x).1 hx with h | h
  · exact h.2
  · exact hvF x h

theorem starFill_vertex_not_in_vertexSet (cells : List (List Nat)) {fill : List (List Nat)} {v : Nat}
    (hvF : ∀ c ∈ fill, v ∉ c) : v ∉ vertexSet (starFill cells v fill) :=
  not_mem_vertexSet.2 (starFill_vertex_gone cells hvF)

theorem starFill_other_cells_kept (cells fill : List (List Nat)) {v : Nat} {c : List Nat}
    (hc : c ∈ cells) (hv : v ∉ c) : c ∈ starFill cells v fill :=
  (starFill_mem cells fill v c).2 (Or.inl ⟨hc, hv⟩)

theorem starFill_removed_in_star (cells fill : List (List Nat)) {v : Nat} {c : List Nat}
    (hc : c ∈ cells) (hgone : c ∉ starFill cells v fill) : c ∈ starOf cells v := by
  refine mem_starOf.2 ⟨hc, ?_⟩
  apply Classical.byContradiction
  intro hv
  exact hgone (starFill_other_cells_kept cells fill hc hv)

/-! ### §s2 cell count -/

/-- additive form (no truncated subtraction); no hypothesis needed -/
theorem starFill_length_add (cells fill : List (List Nat)) (v : Nat) :
    (starFill cells v fill).length + (starOf cells v).length = cells.length + fill.length := by
  rw [starFill_eq_dropAdd, starOf]
  exact length_dropAdd cells _ fill

theorem starFill_nodup {cells fill : List (List Nat)} {v : Nat} (hnd : cells.Nodup)
    (hF : fill.Nodup) (hdis : ∀ c ∈ fill, c ∈ cells → v ∈ c) : (starFill cells v fill).Nodup := by
  rw [starFill_eq_dropAdd]
  exact dropAdd_nodup hnd hF fun c hc h => by simpa using hdis c hc h

theorem starFill_count {cells fill : List (List Nat)} {v : Nat} (hnd : cells.Nodup)
    (hF : fill.Nodup) (hdis : ∀ c ∈ fill, c ∈ cells → v ∈ c) :
    (starFill cells v fill).length = cells.length - (starOf cells v).length + fill.length ∧
    (starFill cells v fill).Nodup := by
  refine ⟨?_, starFill_nodup hnd hF hdis⟩
  have := starFill_length_add cells fill v
  have : (starOf cells v).length ≤ cells.length := List.length_filter_le ..
  omega

/-! ### §s3 which vertices survive -/

theorem starFill_vertex_kept_iff (cells fill : List (List Nat)) (u v : Nat) :
    (∃ x ∈ starFill cells v fill, u ∈ x) ↔
      (∃ c ∈ cells, v ∉ c ∧ u ∈ c) ∨ (∃ c ∈ fill, u ∈ c) := by
  -- membership, and `∃` distributes over the two kinds of cell
  simp only [starFill_mem, or_and_right, exists_or, and_assoc]

/-- **isolated vertex after removal** (the hazard of a bad fan): a vertex `u` all of whose cells are
star cells of `v` and that is in no fill cell is in NO cell afterwards -/
theorem starFill_link_vertex_lost (cells fill : List (List Nat)) {u v : Nat}
    (hstar : ∀ c ∈ cells, u ∈ c → v ∈ c) (hF : ∀ c ∈ fill, u ∉ c) :
    ∀ x ∈ starFill cells v fill, u ∉ x := by
  intro x hx hu
  rcases (starFill_vertex_kept_iff cells fill u v).1 ⟨x, hx, hu⟩ with ⟨c, h1, h2, h3⟩ | ⟨c, h, h3⟩
  · exact h2 (hstar c h1 h3)
  · exact hF c h h3

theorem starFill_link_vertex_not_in_vertexSet (cells fill : List (List Nat)) {u v : Nat}
    (hstar : ∀ c ∈ cells, u ∈ c → v ∈ c) (hF : ∀ c ∈ fill, u ∉ c) :
    u ∉ vertexSet (starFill cells v fill) :=
  not_mem_vertexSet.2 (starFill_link_vertex_lost cells fill hstar hF)

theorem starFill_vertex_survives (cells fill : List (List Nat)) {u v : Nat} {c : List Nat}
    (hc : c ∈ cells) (hv : v ∉ c) (hu : u ∈ c) : u ∈ vertexSet (starFill cells v fill) :=
  mem_vertexSet.2 ⟨c, starFill_other_cells_kept cells fill hc hv, hu⟩

/-! ### §s4 facet degrees -/

theorem starFill_facet_degree_add (cells fill : List (List Nat)) (v : Nat) (f : List Nat) :
    facetCount (starFill cells v fill) f + facetCount (starOf cells v) f =
      facetCount cells f + facetCount fill f := by
  rw [starFill_eq_dropAdd, starOf]
  exact facetCount_dropAdd cells _ fill f

theorem starFill_facet_degree (cells fill : List (List Nat)) (v : Nat) (f : List Nat) :
    facetCount (starFill cells v fill) f =
      facetCount cells f - facetCount (starOf cells v) f + facetCount fill f := by
  rw [starFill_eq, facetCount_append, facetCount_star_split cells v f, Nat.add_sub_cancel]

/-- the dual of `facetCount_step_old` (Lemmas/CavityAux.lean) -/
theorem starFill_facet_degree_link {cells : List (List Nat)} (fill : List (List Nat)) {v : Nat}
    (hnd : cells.Nodup) (hs : ∀ c ∈ cells, c.Pairwise (· < ·)) {f : List Nat} (hvf : v ∉ f) :
    facetCount (starFill cells v fill) f =
      facetCount cells f - (if f ∈ linkOf cells v then 1 else 0) + facetCount fill f := by
  rw [starFill_facet_degree, facetCount_star_link hnd hs hvf]

theorem starFill_facet_through_v {cells fill : List (List Nat)} {v : Nat}
    (hvF : ∀ c ∈ fill, v ∉ c) {f : List Nat} (hvf : v ∈ f) :
    facetCount (starFill cells v fill) f = 0 :=
  facetCount_eq_zero_of_fresh (starFill_vertex_gone cells hvF) hvf

/-- **degree ≤ 2 is preserved** under the boundary-matching condition on the fill:
every facet of a fill cell has degree 1 in the fill, or degree 2 in the fill and is a facet of no kept
cell (`hint`); every boundary (degree 1) facet of the fill is a facet of a star cell or a facet of no
kept cell (`hbd`).  Every facet, no sortedness / `Nodup` hypothesis. -/
theorem starFill_facet_degree_le_two {cells fill : List (List Nat)} {v : Nat}
    (h2 : ∀ f, facetCount cells f ≤ 2)
    (hint : ∀ f ∈ cellFacets fill, facetCount fill f = 1 ∨
      (facetCount fill f = 2 ∧ facetCount (starKept cells v) f = 0))
    (hbd : ∀ f ∈ cavityBoundary fill, 1 ≤ facetCount (starOf cells v) f ∨
      facetCount (starKept cells v) f = 0) (f : List Nat) :
    facetCount (starFill cells v fill) f ≤ 2 := by
  -- afterwards: kept cells and fill cells; before: kept cells and star cells
  rw [starFill_eq, facetCount_append]
  have hc := facetCount_star_split cells v f ▸ h2 f
  by_cases hm : f ∈ cellFacets fill
  · rcases hint f hm with h1 | ⟨h1, h0⟩
    · rcases hbd f (mem_cavityBoundary.2 h1) with hb | hb <;> omega
    · omega
  · have := Nat.eq_zero_of_not_pos (mt facetCount_pos_iff.1 hm)
    omega

/-- the same with the conditions as `starRemovalProblem` checks them: interior facets of the fill are
facets of no cell before, boundary facets of the fill are link facets or facets of no cell before -/
theorem starFill_facet_degree_le_two_link {cells fill : List (List Nat)} {v : Nat}
    (h2 : ∀ f, facetCount cells f ≤ 2)
    (hint : ∀ f ∈ cellFacets fill, facetCount fill f = 1 ∨
      (facetCount fill f = 2 ∧ facetCount cells f = 0))
    (hbd : ∀ f ∈ cavityBoundary fill, f ∈ starLinkFacets cells v ∨ facetCount cells f = 0)
    (f : List Nat) : facetCount (starFill cells v fill) f ≤ 2 := by
  -- a facet of no cell before is a facet of no kept cell
  have hk : ∀ g, facetCount cells g = 0 → facetCount (starKept cells v) g = 0 := fun g h0 =>
    (Nat.add_eq_zero_iff.1 ((facetCount_star_split cells v g).symm.trans h0)).1
  exact starFill_facet_degree_le_two h2
    (fun g hg => (hint g hg).imp_right fun h => ⟨h.1, hk g h.2⟩)
    (fun g hg => (hbd g hg).imp (fun h => Nat.le_of_eq (mem_starLinkFacets.1 h).1.symm) (hk g)) f

/-! ### §s5 inverse of the cavity insertion -/

theorem starFill_cavityInsertWith_eq {cells : List (List Nat)} (C F : List (List Nat)) {v : Nat}
    (hfresh : ∀ c ∈ cells, v ∉ c) :
    starFill (cavityInsertWith cells C F v) v C = cells.filter (fun c => !C.contains c) ++ C := by
  -- the second edit drops the cells satisfying `(·.contains v)`: exactly the cone cells
  rw [starFill_eq_dropAdd, cavityInsertWith_eq_dropAdd]
  exact dropAdd_dropAdd _ C (fun c hc => by simpa using hfresh c hc) fun b hb => by
    simpa using mem_of_mem_map_coneCell hb

theorem starFill_cavity_inverse_perm {cells C : List (List Nat)} (F : List (List Nat)) {v : Nat}
    (hnd : cells.Nodup) (hC : C.Nodup) (hsub : ∀ c ∈ C, c ∈ cells) (hfresh : ∀ c ∈ cells, v ∉ c) :
    (starFill (cavityInsertWith cells C F v) v C).Perm cells := by
  rw [starFill_cavityInsertWith_eq C F hfresh]
  exact filter_not_contains_append_perm hnd hC hsub

/-- **removal undoes insertion** (interior instance; any coned facets `F` would do): as sets -/
theorem starFill_cavity_inverse {cells C : List (List Nat)} {v : Nat}
    (hsub : ∀ c ∈ C, c ∈ cells) (hfresh : ∀ c ∈ cells, v ∉ c) (x : List Nat) :
    x ∈ starFill (cavityInsert cells C v) v C ↔ x ∈ cells := by
  rw [cavityInsert, starFill_cavityInsertWith_eq C _ hfresh, List.mem_append, List.mem_filter]
  by_cases hm : x ∈ C <;> simp [hm, hsub x]

/-- **insertion undoes removal**, as lists: re-inserting `v` with the fill as conflict region and
the old link as coned facets gives the kept cells followed by the old star (the fill cells must not
be cells before) -/
theorem cavityInsertWith_starFill_eq {cells fill : List (List Nat)} {v : Nat}
    (hs : ∀ c ∈ cells, c.Pairwise (· < ·)) (hdis : ∀ c ∈ fill, c ∉ cells) :
    cavityInsertWith (starFill cells v fill) fill (linkOf cells v) v =
      starKept cells v ++ starOf cells v := by
  -- the cones over the link are the star; the second edit drops the cells of the fill
  rw [cavityInsertWith_eq_dropAdd, starFill_eq_dropAdd, linkOf,
    map_coneCell_without (fun c hc => hs c (mem_starOf.1 hc).1) fun c hc => (mem_starOf.1 hc).2]
  exact dropAdd_dropAdd _ _ (fun c hc => by simpa using fun h => hdis c h hc) fun b hb => by
    simpa using hb

theorem cavity_starFill_inverse {cells fill : List (List Nat)} {v : Nat}
    (hs : ∀ c ∈ cells, c.Pairwise (· < ·)) (hdis : ∀ c ∈ fill, c ∉ cells) (x : List Nat) :
    x ∈ cavityInsertWith (starFill cells v fill) fill (linkOf cells v) v ↔ x ∈ cells := by
  rw [cavityInsertWith_starFill_eq hs hdis]
  exact (star_kept_perm cells v).mem_iff

theorem cavity_starFill_inverse_interior {cells fill : List (List Nat)} {v : Nat}
    (hs : ∀ c ∈ cells, c.Pairwise (· < ·)) (hdis : ∀ c ∈ fill, c ∉ cells)
    (hB : ∀ f, f ∈ cavityBoundary fill ↔ f ∈ linkOf cells v) (x : List Nat) :
    x ∈ cavityInsert (starFill cells v fill) fill v ↔ x ∈ cells := by
  rw [← cavity_starFill_inverse hs hdis x, cavityInsert, mem_cavityInsertWith, mem_cavityInsertWith]
  exact or_congr_right (exists_congr fun f => and_congr_left' (hB f))

/-! ### §s6 the executable step check -/

/-- what `starRemovalProblem pre post v = none` checks, in `Prop` form; `R = stepRemoved pre post`
(`pre \ post`), `N = stepCreated pre post` (`post \ pre`) -/
structure StarRemovalChecks (pre post : List (List Nat)) (v : Nat) : Prop where
  star_ne : starOf pre v ≠ []
  gone : ∀ c ∈ post, v ∉ c
  removed_star : ∀ c ∈ stepRemoved pre post, c ∈ starOf pre v
  star_removed : ∀ c ∈ starOf pre v, c ∈ stepRemoved pre post
  link_verts : ∀ c ∈ stepCreated pre post, ∀ u ∈ c, u ≠ v ∧ u ∈ starVerts pre v
  fill_nodup : (stepCreated pre post).Nodup
  fill_facets : ∀ f ∈ cellFacets (stepCreated pre post),
    facetCount (stepCreated pre post) f = 1 ∨
      (facetCount (stepCreated pre post) f = 2 ∧ facetCount pre f = 0)
  fill_boundary : ∀ f ∈ cavityBoundary (stepCreated pre post),
    f ∈ starLinkFacets pre v ∨ (starOnHull pre v = true ∧ facetCount pre f = 0)
  link_covered : ∀ f ∈ starLinkFacets pre v, f ∈ cavityBoundary (stepCreated pre post) ∨
    (starOnHull pre v = true ∧ facetCount (stepCreated pre post) f = 0)
  post_sub : ∀ x ∈ post, x ∈ starFill pre v (stepCreated pre post)
  sub_post : ∀ x ∈ starFill pre v (stepCreated pre post), x ∈ post

theorem starRemovalProblem_none_iff (pre post : List (List Nat)) (v : Nat) :
    starRemovalProblem pre post v = none ↔ StarRemovalChecks pre post v := by
  unfold starRemovalProblem
  -- the chain of `if`s becomes a conjunction, each Boolean test its proposition
  simp only [ite_some_eq_none, Bool.not_eq_true', Bool.not_eq_false, List.all_eq_true,
    List.any_eq_true, Bool.or_eq_true, Bool.and_eq_true, beq_iff_eq, bne_iff_ne,
    List.contains_iff_mem, List.isEmpty_iff, nodupB_iff, not_exists, not_and]
  exact ⟨fun ⟨h1, h2, h3, h4, h5, h6, h7, h8, h9, h10, _⟩ =>
      ⟨h1, h2, h3, h4, h5, h6, h7, h8, h9, h10.1, h10.2⟩,
    fun k => ⟨k.star_ne, k.gone, k.removed_star, k.star_removed, k.link_verts, k.fill_nodup,
      k.fill_facets, k.fill_boundary, k.link_covered, ⟨k.post_sub, k.sub_post⟩, trivial⟩⟩

/-- **soundness of the executable check**: a step that passes is a star removal — there is a `fill`
such that `post` is, as a set of cells, `starFill pre v fill`; no fill cell contains `v`, every
removed cell contained `v`, the fill uses link vertices only, and the boundary of the fill matches
the link (exactly, if `v` is not a hull vertex) -/
theorem starRemovalProblem_none_sound {pre post : List (List Nat)} {v : Nat}
    (h : starRemovalProblem pre post v = none) :
    ∃ fill, (∀ c ∈ fill, v ∉ c) ∧ (∀ x, x ∈ post ↔ x ∈ starFill pre v fill) ∧
      (∀ c ∈ pre, c ∉ post → v ∈ c) ∧ (∀ c ∈ post, v ∉ c) ∧ starOf pre v ≠ [] ∧
      (∀ c ∈ fill, ∀ u ∈ c, u ≠ v ∧ ∃ s ∈ starOf pre v, u ∈ s) ∧ fill.Nodup ∧
      (∀ c ∈ fill, c ∉ pre) ∧
      (∀ f ∈ cellFacets fill,
        facetCount fill f = 1 ∨ (facetCount fill f = 2 ∧ facetCount pre f = 0)) ∧
      (∀ f ∈ cavityBoundary fill,
        f ∈ starLinkFacets pre v ∨ (starOnHull pre v = true ∧ facetCount pre f = 0)) ∧
      (∀ f ∈ starLinkFacets pre v,
        f ∈ cavityBoundary fill ∨ (starOnHull pre v = true ∧ facetCount fill f = 0)) := by
  have k := (starRemovalProblem_none_iff pre post v).1 h
  -- the fill is `post \ pre`
  have havoid : ∀ c ∈ stepCreated pre post, v ∉ c := fun c hc => k.gone c (mem_stepCreated.1 hc).1
  have hnew : ∀ c ∈ stepCreated pre post, c ∉ pre := fun c hc => (mem_stepCreated.1 hc).2
  have hsame : ∀ x, x ∈ post ↔ x ∈ starFill pre v (stepCreated pre post) := fun x =>
    ⟨k.post_sub x, k.sub_post x⟩
  have hstar : ∀ c ∈ pre, c ∉ post → v ∈ c := fun c hc hn =>
    (mem_starOf.1 (k.removed_star c (mem_stepRemoved.2 ⟨hc, hn⟩))).2
  have hverts : ∀ c ∈ stepCreated pre post, ∀ u ∈ c, u ≠ v ∧ ∃ s ∈ starOf pre v, u ∈ s :=
    fun c hc u hu => (k.link_verts c hc u hu).imp_right mem_starVerts.1
  exact ⟨_, havoid, hsame, hstar, k.gone, k.star_ne, hverts, k.fill_nodup, hnew, k.fill_facets,
    k.fill_boundary, k.link_covered⟩

/-- for an interior vertex (no facet through `v` on the hull) a step that passes has
`∂(fill) = link(v)` as sets -/
theorem starRemovalProblem_none_interior {pre post : List (List Nat)} {v : Nat}
    (h : starRemovalProblem pre post v = none) (hint : starOnHull pre v = false) (f : List Nat) :
    f ∈ cavityBoundary (stepCreated pre post) ↔ f ∈ starLinkFacets pre v := by
  have k := (starRemovalProblem_none_iff pre post v).1 h
  have hno : ∀ {p : Prop}, ¬ (starOnHull pre v = true ∧ p) := fun h' => by simp [hint] at h'
  exact ⟨fun hf => (k.fill_boundary f hf).resolve_right hno,
    fun hf => (k.link_covered f hf).resolve_right hno⟩

/-- end to end: a step that passes the check keeps every facet at degree ≤ 2 -/
theorem starRemoval_facet_degree_le_two {pre post : List (List Nat)} {v : Nat}
    (h : starRemovalProblem pre post v = none) (hpre : pre.Nodup) (hpost : post.Nodup)
    (h2 : ∀ f, facetCount pre f ≤ 2) (f : List Nat) : facetCount post f ≤ 2 := by
  have k := (starRemovalProblem_none_iff pre post v).1 h
  have hnd : (starFill pre v (stepCreated pre post)).Nodup :=
    starFill_nodup hpre k.fill_nodup (fun c hc hp => absurd hp (mem_stepCreated.1 hc).2)
  rw [facetCount_eq_of_mem_iff hpost hnd (fun x => ⟨k.post_sub x, k.sub_post x⟩) f]
  exact starFill_facet_degree_le_two_link h2 k.fill_facets
    (fun g hg => (k.fill_boundary g hg).imp_right And.right) f

/-- **completeness of the executable check**: every star removal whose fill avoids `v`, is new,
duplicate-free, uses star vertices only and satisfies the boundary-matching conditions passes the
check — proved for `post` the list `starFill pre v fill` itself, while
`starRemovalProblem_none_sound` fixes `post` only up to its members: completeness for a reordered
`post` is not proved. -/
theorem starRemovalProblem_complete {pre fill : List (List Nat)} {v : Nat}
    (hne : starOf pre v ≠ []) (hvF : ∀ c ∈ fill, v ∉ c) (hdis : ∀ c ∈ fill, c ∉ pre)
    (hF : fill.Nodup) (hverts : ∀ c ∈ fill, ∀ u ∈ c, ∃ s ∈ starOf pre v, u ∈ s)
    (hfac : ∀ f ∈ cellFacets fill,
      facetCount fill f = 1 ∨ (facetCount fill f = 2 ∧ facetCount pre f = 0))
    (hbd : ∀ f ∈ cavityBoundary fill,
      f ∈ starLinkFacets pre v ∨ (starOnHull pre v = true ∧ facetCount pre f = 0))
    (hcov : ∀ f ∈ starLinkFacets pre v,
      f ∈ cavityBoundary fill ∨ (starOnHull pre v = true ∧ facetCount fill f = 0)) :
    starRemovalProblem pre (starFill pre v fill) v = none := by
  -- the check reconstructs the star and the fill
  have e1 : stepRemoved pre (starFill pre v fill) = starOf pre v := stepRemoved_dropAdd _ hdis
  have e2 : stepCreated pre (starFill pre v fill) = fill := stepCreated_dropAdd _ hdis
  rw [starRemovalProblem_none_iff]
  refine ⟨hne, starFill_vertex_gone pre hvF, ?_, ?_, ?_, ?_, ?_, ?_, ?_, ?_, ?_⟩
  · rw [e1]
    exact fun c hc => hc
  · rw [e1]
    exact fun c hc => hc
  · rw [e2]
    exact fun c hc u hu => ⟨fun e => hvF c hc (e ▸ hu), mem_starVerts.2 (hverts c hc u hu)⟩
  · rwa [e2]
  · rwa [e2]
  · rwa [e2]
  · rwa [e2]
  · rw [e2]
    exact fun x hx => hx
  · rw [e2]
    exact fun x hx => hx

theorem starRemovalProblem_complete_interior {pre fill : List (List Nat)} {v : Nat}
    (hnd : pre.Nodup) (hs : ∀ c ∈ pre, c.Pairwise (· < ·))
    (hne : starOf pre v ≠ []) (hvF : ∀ c ∈ fill, v ∉ c) (hdis : ∀ c ∈ fill, c ∉ pre)
    (hF : fill.Nodup) (hverts : ∀ c ∈ fill, ∀ u ∈ c, ∃ s ∈ starOf pre v, u ∈ s)
    (hfac : ∀ f ∈ cellFacets fill,
      facetCount fill f = 1 ∨ (facetCount fill f = 2 ∧ facetCount pre f = 0))
    (hB : ∀ f, f ∈ cavityBoundary fill ↔ f ∈ linkOf pre v) :
    starRemovalProblem pre (starFill pre v fill) v = none :=
  starRemovalProblem_complete hne hvF hdis hF hverts hfac
    (fun f hf => Or.inl ((mem_starLinkFacets_iff_link hnd hs).2 ((hB f).1 hf)))
    (fun f hf => Or.inl ((hB f).2 ((mem_starLinkFacets_iff_link hnd hs).1 hf)))

/-! ### §s7 non-vacuity -/

/-- 2-D, inverse k=1 move: the interior vertex `9` with the star of three triangles inside
`[0,1,2]`; the fill is the single triangle; link = boundary of the fill; not a hull vertex -/
theorem ex_star_k1 :
    starFill [[0, 1, 9], [1, 2, 9], [0, 2, 9]] 9 [[0, 1, 2]] = [[0, 1, 2]] ∧
    starRemovalProblem [[0, 1, 9], [1, 2, 9], [0, 2, 9]] [[0, 1, 2]] 9 = none ∧
    starLinkFacets [[0, 1, 9], [1, 2, 9], [0, 2, 9]] 9 = [[0, 1], [1, 2], [0, 2]] ∧
    linkOf [[0, 1, 9], [1, 2, 9], [0, 2, 9]] 9 = [[0, 1], [1, 2], [0, 2]] ∧
    starOnHull [[0, 1, 9], [1, 2, 9], [0, 2, 9]] 9 = false := by
  decide +kernel

/-- 2-D, interior vertex of degree 4 with two kept neighbours: fan of two triangles from `0` -/
theorem ex_star_deg4 :
    starRemovalProblem [[0, 1, 9], [1, 2, 9], [2, 3, 9], [0, 3, 9]] [[0, 1, 2], [0, 2, 3]] 9 = none ∧
    starRemovalProblem [[0, 1, 9], [1, 2, 9], [2, 3, 9], [0, 3, 9], [0, 1, 5], [1, 2, 6]]
      [[0, 1, 5], [0, 1, 2], [1, 2, 6], [0, 2, 3]] 9 = none ∧
    starFill [[0, 1, 9], [1, 2, 9], [2, 3, 9], [0, 3, 9], [0, 1, 5], [1, 2, 6]] 9
      [[0, 1, 2], [0, 2, 3]] = [[0, 1, 5], [1, 2, 6], [0, 1, 2], [0, 2, 3]] := by
  decide +kernel

/-- hull vertex: `3` removed from `[[0,1,2],[1,2,3]]`, empty fill, the link edge `[1,2]` becomes a
hull edge; a hull vertex with a reflex link vertex `1`: the fill `[0,1,2]` has the NEW hull edge
`[0,2]` (accepted), and the empty fill is accepted too (legal complex, not convex: geometry is outside
the model); the last cell removed -/
theorem ex_star_hull :
    starFill [[0, 1, 2], [1, 2, 3]] 3 [] = [[0, 1, 2]] ∧
    starRemovalProblem [[0, 1, 2], [1, 2, 3]] [[0, 1, 2]] 3 = none ∧
    starOnHull [[0, 1, 2], [1, 2, 3]] 3 = true ∧
    starRemovalProblem [[0, 1, 9], [1, 2, 9], [0, 1, 3], [1, 2, 3]] [[0, 1, 3], [1, 2, 3], [0, 1, 2]] 9
      = none ∧
    starRemovalProblem [[0, 1, 9], [1, 2, 9], [0, 1, 3], [1, 2, 3]] [[0, 1, 3], [1, 2, 3]] 9 = none ∧
    starRemovalProblem [[0, 1, 2]] [] 2 = none := by
  decide +kernel

/-- 3-D inverse k=1 move: `9` inside the tetrahedron `[0,1,2,3]` -/
theorem ex_star_3d :
    starRemovalProblem [[0, 1, 2, 9], [0, 1, 3, 9], [0, 2, 3, 9], [1, 2, 3, 9], [0, 1, 2, 4]]
      [[0, 1, 2, 4], [0, 1, 2, 3]] 9 = none := by
  decide +kernel

/-- negative: a fill on a foreign vertex (`7` is not a link vertex of `9`); a fill that leaves link
facets of an interior vertex uncovered (nothing filled — with and without a kept neighbour; one
triangle of the two of the fan: its edge `[0,2]` is not a link facet and `[2,3]`, `[0,3]` stay
uncovered) -/
theorem ex_star_bad_fill :
    (starRemovalProblem [[0, 1, 9], [1, 2, 9], [0, 2, 9]] [[0, 1, 7], [1, 2, 7], [0, 2, 7]] 9).isSome
      = true ∧
    (starRemovalProblem [[0, 1, 9], [1, 2, 9], [0, 2, 9]] [] 9).isSome = true ∧
    (starRemovalProblem [[0, 1, 9], [1, 2, 9], [2, 3, 9], [0, 3, 9]] [[0, 1, 2]] 9).isSome = true ∧
    (starRemovalProblem [[0, 1, 9], [1, 2, 9], [0, 2, 9], [0, 1, 5]] [[0, 1, 5]] 9).isSome = true := by
  decide +kernel

/-- negative: `post` still contains `v`; a non-star cell (`[0,1,5]`) disappears; `v` was in no cell;
the hull vertex `9` with link path `0-1-2-3`: two fill cells on the link edge `[0,1]` (it would get
degree 3 with a kept cell, and has degree 2 in the fill without being new); a fill cell `[0,1,2]`
glued onto the interior edge `[0,2]` of the kept cells `[0,2,5]`, `[0,2,6]` (degree 3) -/
theorem ex_star_bad_other :
    (starRemovalProblem [[0, 1, 9], [1, 2, 9], [0, 2, 9]] [[0, 1, 2], [0, 2, 9]] 9).isSome = true ∧
    (starRemovalProblem [[0, 1, 9], [1, 2, 9], [0, 2, 9], [0, 1, 5]] [[0, 1, 2]] 9).isSome = true ∧
    (starRemovalProblem [[0, 1, 2]] [[0, 1, 2]] 9).isSome = true ∧
    (starRemovalProblem [[0, 1, 9], [1, 2, 9], [2, 3, 9]] [[0, 1, 2], [0, 1, 3]] 9).isSome = true ∧
    (starRemovalProblem [[0, 1, 9], [1, 2, 9], [0, 2, 5], [0, 2, 6]]
      [[0, 2, 5], [0, 2, 6], [0, 1, 2]] 9).isSome = true := by
  decide +kernel

/-- the isolated-vertex hazard, obtained from the general theorem: a (bad) fill that forgets the link
vertex `3` of `9`, whose only cells are star cells -/
example : ∀ x ∈ starFill [[0, 1, 9], [1, 2, 9], [2, 3, 9], [0, 3, 9]] 9 [[0, 1, 2]], 3 ∉ x :=
  starFill_link_vertex_lost _ _ (by decide +kernel) (by decide +kernel)

/-- removal undoes insertion on the example of Props/C02 (`ex_cavity_2d`) -/
example : starFill (cavityInsert [[0, 1, 2], [1, 2, 3]] [[0, 1, 2], [1, 2, 3]] 4) 4
    [[0, 1, 2], [1, 2, 3]] = [[0, 1, 2], [1, 2, 3]] ∧
    cavityInsert (starFill [[0, 2, 4], [0, 1, 4], [2, 3, 4], [1, 3, 4]] 4 [[0, 1, 2], [1, 2, 3]])
      [[0, 1, 2], [1, 2, 3]] 4 = [[0, 2, 4], [0, 1, 4], [2, 3, 4], [1, 3, 4]] := by
  decide +kernel

/-- the degree formula on an example: the link edge `[0,1]` keeps degree 2 (one star cell out, one
fill cell in), the new interior edge `[0,2]` of the fan gets degree 2 -/
example : facetCount (starFill [[0, 1, 9], [1, 2, 9], [2, 3, 9], [0, 3, 9], [0, 1, 5]] 9
      [[0, 1, 2], [0, 2, 3]]) [0, 1] = 2 ∧
    facetCount (starFill [[0, 1, 9], [1, 2, 9], [2, 3, 9], [0, 3, 9], [0, 1, 5]] 9
      [[0, 1, 2], [0, 2, 3]]) [0, 2] = 2 := by
  decide +kernel

end DM.C06
