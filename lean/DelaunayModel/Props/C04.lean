/-
Props/C04.lean — property theorems for C04 (a passing Delaunay check means the empty-circumsphere
property really holds).

 * `emptySphere_iff`: the executable brute-force check equals the declarative statement.
 * `k2_symmetric` / `k2_both_positive`: for two cells sharing a facet with apexes on opposite
   sides, the two in-sphere signs are EQUAL; so a genuine facet violation always shows both signs
   positive.  This refutes the comment at flips.rs:1840 ("physically impossible").
 * `filtered_k2_never_fires`: with the both-positive filter on, the k=2 predicate can never report
   a violation on a properly embedded facet pair — in exact arithmetic the filter disables the
   check entirely (finding F1).  `unfiltered_k2_iff`: without it the predicate is exact.
 * `f1_witness`: a concrete 4-D configuration (6 points) that is not Delaunay and that the
   filtered predicate accepts.
Not proved: all local predicates pass ⇒ globally Delaunay (the Delaunay lemma).
-/
import DelaunayModel.Model.Certify
import DelaunayModel.Model.L4
import DelaunayModel.Props.C12
namespace DM.C04

open DM

/-- **K2 symmetry, sign form.**  If the two cells `F ++ [a]` and `F ++ [b]` are oppositely
oriented (apexes on opposite sides of `F`, or both degenerate), then "`b` is inside the
circumsphere of `F ++ [a]`" and "`a` is inside the circumsphere of `F ++ [b]`" agree: the two
in-sphere determinants are opposite (`DM.k2_symmetric`, one row swap) and so are the orientations. -/
theorem k2_symmetric {D : Nat} {F : List IPt} {a b : IPt} (hF : F.length = D)
    (hFd : ∀ p ∈ F, p.length = D) (ha : a.length = D) (hb : b.length = D)
    (ho : orientSign (F ++ [a]) = - orientSign (F ++ [b])) :
    insphereSign (F ++ [a]) b = insphereSign (F ++ [b]) a := by
  unfold insphereSign
  rw [DM.k2_symmetric hF hFd ha hb, ho, sgn_neg, neg_mul_neg]

/-- a genuine violation across a facet is seen from both sides -/
theorem k2_both_positive {D : Nat} {F : List IPt} {a b : IPt} (hF : F.length = D)
    (hFd : ∀ p ∈ F, p.length = D) (ha : a.length = D) (hb : b.length = D)
    (ho : orientSign (F ++ [a]) = - orientSign (F ++ [b]))
    (hv : insphereSign (F ++ [a]) b > 0) : insphereSign (F ++ [b]) a > 0 := by
  rw [← k2_symmetric hF hFd ha hb ho]; exact hv

/-- on two EQUAL in-sphere signs the filtered predicate is silent: either both are positive (the
"artifact" the filter suppresses) or neither is -/
theorem k2Violates_filtered_self (x : Int) : k2Violates true x x = false := by
  unfold k2Violates
  by_cases h : x > 0 <;> simp [h]

theorem k2Violates_unfiltered_self (x : Int) : k2Violates false x x = true ↔ x > 0 := by
  unfold k2Violates
  simp

theorem filtered_k2_never_fires {D : Nat} {F : List IPt} {a b : IPt} (hF : F.length = D)
    (hFd : ∀ p ∈ F, p.length = D) (ha : a.length = D) (hb : b.length = D)
    (ho : orientSign (F ++ [a]) = - orientSign (F ++ [b])) :
    k2Violates true (insphereSign (F ++ [a]) b) (insphereSign (F ++ [b]) a) = false := by
  rw [← k2_symmetric hF hFd ha hb ho]
  exact k2Violates_filtered_self _

theorem unfiltered_k2_iff {D : Nat} {F : List IPt} {a b : IPt} (hF : F.length = D)
    (hFd : ∀ p ∈ F, p.length = D) (ha : a.length = D) (hb : b.length = D)
    (ho : orientSign (F ++ [a]) = - orientSign (F ++ [b])) :
    k2Violates false (insphereSign (F ++ [a]) b) (insphereSign (F ++ [b]) a) = true ↔
      insphereSign (F ++ [a]) b > 0 := by
  rw [← k2_symmetric hF hFd ha hb ho]
  exact k2Violates_unfiltered_self _

/-- brute-force validator decision: without the INSIDE filter, a strictly-inside vertex is always
reported unless its back test is exactly on the sphere (which, by `k2_symmetric`, cannot happen
for an embedded pair when the forward test is strict) -/
theorem bruteViolates_unfiltered (dGe4 : Bool) (inA : Int) (b : Int) (hA : inA > 0) (hb : b ≠ 0) :
    bruteViolates dGe4 false inA (some b) = true := by
  unfold bruteViolates
  simp [hA, hb]

theorem bruteViolates_filtered_symmetric (inA : Int) (hA : inA > 0) :
    bruteViolates true true inA (some inA) = false := by
  unfold bruteViolates
  simp [hA]

theorem emptySphere_iff (K : Cx) :
    emptySphere K = true ↔
      ∀ c ∈ K.cells, ∀ s, cellPts K (minExp (allPts K)) c = some s → orientSign s ≠ 0 →
        ∀ vid p, (vid, p) ∈ vertPts K (minExp (allPts K)) → c.vs.contains vid = false →
          insphereSign s p ≤ 0 := by
  unfold emptySphere sphereViolations
  simp only [List.isEmpty_iff, List.flatMap_eq_nil_iff]
  -- both sides quantify over the cells, then over the vertex table: compare them case by case
  refine forall₂_congr fun c _ => ?_
  cases cellPts K (minExp (allPts K)) c with
  | none => simp only [reduceCtorEq, IsEmpty.forall_iff, implies_true]
  | some s =>
    simp only [Option.some.injEq, forall_eq']
    by_cases ho : orientSign s = 0
    · simp only [ho, BEq.rfl, ↓reduceIte, ne_eq, not_true_eq_false, IsEmpty.forall_iff]
    · simp only [beq_iff_eq, ho, ↓reduceIte, List.filterMap_eq_nil_iff, ne_eq, not_false_eq_true,
        forall_true_left, Prod.forall]
      refine forall₃_congr fun vid p _ => ?_
      cases c.vs.contains vid
      · simp only [Bool.false_eq_true, ↓reduceIte, ite_eq_right_iff, reduceCtorEq, imp_false,
          Int.not_lt, forall_const]
      · simp only [↓reduceIte, Bool.true_eq_false, IsEmpty.forall_iff]

/-! ### F1 witness (4-D, 6 points): base simplex 0, 4e₁, 4e₂, 4e₃ with apexes (1,1,1,±2) -/

def wF : List IPt := [[0,0,0,0],[4,0,0,0],[0,4,0,0],[0,0,4,0]]
def wa : IPt := [1,1,1,2]
def wb : IPt := [1,1,1,-2]

/-- the two cells lie on opposite sides of the shared facet, the second apex is strictly inside
the first cell's circumsphere (so {F∪a, F∪b} is NOT Delaunay), and the filtered k=2 predicate
nevertheless reports "no violation". -/
theorem f1_witness :
    orientSign (wF ++ [wa]) = - orientSign (wF ++ [wb]) ∧
    insphereSign (wF ++ [wa]) wb = 1 ∧
    k2Violates true (insphereSign (wF ++ [wa]) wb) (insphereSign (wF ++ [wb]) wa) = false ∧
    k2Violates false (insphereSign (wF ++ [wa]) wb) (insphereSign (wF ++ [wb]) wa) = true := by
  -- three determinants are evaluated, each once, in their smallest form: orientation through the
  -- 4×4 edge matrix (`orientDet_eq_edges`), the in-sphere sign through the 5×5 lifted matrix
  -- (`C12.lifted_sign_normalised`) instead of the 6×6 one; the rest is `k2_symmetric`
  have hFd : ∀ p ∈ wF, p.length = 4 := by decide +kernel
  have sa : Simplex 4 (wF ++ [wa]) := .append_singleton rfl hFd rfl
  have sb : Simplex 4 (wF ++ [wb]) := .append_singleton rfl hFd rfl
  have oa : orientDet (wF ++ [wa]) = 128 := by
    rw [Measures.orientDet_eq_edges sa]; decide +kernel
  have ob : orientDet (wF ++ [wb]) = -128 := by
    rw [Measures.orientDet_eq_edges sb]; decide +kernel
  have lab : liftedDet (wF ++ [wa]) wb = -1280 := by decide +kernel
  have ho : orientSign (wF ++ [wa]) = - orientSign (wF ++ [wb]) := by
    rw [orientSign, orientSign, oa, ob]; rfl
  have hin : insphereSign (wF ++ [wa]) wb = 1 := by
    rw [← C12.lifted_sign_normalised (D := 4) sa.1 sa.2 rfl, lab, orientSign, oa]; rfl
  exact ⟨ho, hin, filtered_k2_never_fires rfl hFd rfl rfl ho,
    (unfiltered_k2_iff rfl hFd rfl rfl ho).2 (hin ▸ by decide)⟩

end DM.C04
