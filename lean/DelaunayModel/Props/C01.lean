/-
Props/C01.lean — property theorems for C01 (a successful batch construction returns a certified
Delaunay triangulation).

What is proved (for EVERY insertion behaviour, option combination, retry count, build profile):
`build … = ok t` only if `t` passed the completion validation demanded by the guarantee and one of
the two Level-4 checks.  Together with C05 (validators = specs) and C04 (what a passing Level-4
check means) this is the reason the property holds; the insertion algorithm is a parameter and its
outputs are judged per run by `certify` (K3), whose meaning is `certify_sound`.

NOT proved (stated for visibility, see DESIGN §7 C01): local-to-global Delaunay lemma and
"L1–L3 + positive orientation ⇒ the cells tile the convex hull".
-/
import DelaunayModel.Model.Pipeline
import DelaunayModel.Model.Certify
import DelaunayModel.Lemmas.ListAux
namespace DM.C01

open DM DM.Pipeline

variable {T V : Type}

theorem imp_of_not_and_not {a b : Bool} (h : ¬ (a && !b) = true) : a = true → b = true := by
  rintro rfl
  simpa using h

theorem innerSeeded_ok (env : Env T V) (rl : Bool) (seed : Nat) (vs : List V) (t : T)
    (h : innerSeeded env rl seed vs = .ok t) : rl = true → env.validate123 t = true := by
  unfold innerSeeded at h
  split at h
  · cases h
  · obtain ⟨hc, h⟩ := ite_error_eq_ok h
    cases h
    exact imp_of_not_and_not hc

theorem buildNoRetry_ok (env : Env T V) (rl : Bool) (vs : List V) (t : T)
    (h : buildNoRetry env rl vs = .ok t) :
    (rl = true → env.validate123 t = true) ∧ env.l4flip t = true := by
  unfold buildNoRetry at h
  split at h
  · cases h
  · obtain ⟨h1, h⟩ := ite_error_eq_ok h
    obtain ⟨h2, h⟩ := ite_error_eq_ok h
    cases h
    exact ⟨imp_of_not_and_not h1, by simpa using h2⟩

theorem retryLoop_ok (env : Env T V) (rl : Bool) (vs : List V) (fuel i : Nat) (t : T)
    (h : retryLoop env rl vs fuel i = .ok t) :
    (rl = true → env.validate123 t = true) ∧ env.l4brute t = true := by
  fun_induction retryLoop env rl vs fuel i with
  | case1 => cases h  -- out of fuel
  | case2 _ _ _ t' hin hb =>  -- the candidate passed the brute-force check and is returned
    cases h
    exact ⟨innerSeeded_ok env rl _ _ _ hin, hb⟩
  | case3 _ _ _ _ _ _ ih => exact ih h  -- it failed the brute-force check: next attempt
  | case4 => cases h  -- the attempt failed with a deterministic error
  | case5 _ _ _ _ _ _ ih => exact ih h  -- it failed with another error: next attempt

/-- one vertex order: the non-retry path ends with the flip-predicate Level-4 check, the retry path
accepts a candidate only after the brute-force one -/
theorem buildWith_ok (env : Env T V) (D : Nat) (rl : Bool) (retry : Retry) (debug : Bool)
    (vs : List V) (t : T) (h : buildWith env D rl retry debug vs = .ok t) :
    (rl = true → env.validate123 t = true) ∧ (env.l4flip t = true ∨ env.l4brute t = true) := by
  unfold buildWith at h
  split at h
  · exact (buildNoRetry_ok env rl vs t h).imp_right .inl
  · split at h
    · exact (retryLoop_ok env rl vs _ _ t h).imp_right .inr
    · exact (buildNoRetry_ok env rl vs t h).imp_right .inl
  · split at h
    · exact (retryLoop_ok env rl vs _ _ t h).imp_right .inr
    · exact (buildNoRetry_ok env rl vs t h).imp_right .inl

/-- **gate theorem**: whatever the insertion algorithm does, for every retry policy, attempt
count, build profile, dimension, vertex order and fallback order: an `ok` result passed the
completion validation (when the guarantee requires it) and a Level-4 check. -/
theorem build_ok_gated (env : Env T V) (D : Nat) (rl : Bool) (retry : Retry) (debug : Bool)
    (primary : List V) (fallback : Option (List V)) (t : T)
    (h : build env D rl retry debug primary fallback = .ok t) :
    (rl = true → env.validate123 t = true) ∧ (env.l4flip t = true ∨ env.l4brute t = true) := by
  unfold build at h
  split at h
  · cases h; exact buildWith_ok env D rl retry debug primary _ ‹_›
  · split at h
    · cases h
    · exact buildWith_ok env D rl retry debug _ t h

/-- meaning of the per-run certificate: all five components hold -/
theorem certify_sound (K : Cx) (g : Guarantee) (h : (certify K g).ok = true) :
    checkL1 K = true ∧ checkL2 K = true ∧ checkL3 K g true = true ∧
    emptySphere K = true ∧ convexBoundary K = true := by
  simp only [Certificate.ok, certify, Bool.and_eq_true] at h
  obtain ⟨⟨⟨⟨h1, h2⟩, h3⟩, h4⟩, h5⟩ := h
  exact ⟨h1, h2, h3, h4, h5⟩

/-- the brute-force Delaunay set is, by definition, the (D+1)-subsets that are non-degenerate and
have every other point strictly outside their circumsphere -/
theorem bruteDT_mem (D : Nat) (vp : List (Nat × IPt)) (S : List Nat) :
    S ∈ bruteDT D vp ↔
      S ∈ subsetsK (D + 1) (sortNat (vp.map (·.1))) ∧
      (match S.mapM (fun i => vp.lookup i) with
       | none => false
       | some s => orientSign s != 0 &&
           vp.all (fun (vid, p) => S.contains vid || insphereSign s p < 0)) = true := by
  unfold bruteDT
  rw [List.mem_filter]
  exact Iff.rfl

/-- non-vacuity: an environment whose attempts succeed with a candidate passing all gates
makes `build` return it (the premises of `build_ok_gated` are satisfiable) -/
example : build (T := Nat) (V := Nat)
    { attempt := fun _ _ => .ok 7, validate123 := fun _ => true, l4flip := fun _ => true,
      l4brute := fun _ => true, shuffle := fun _ v => v, deterministicErr := fun _ => false }
    3 true (.shuffled 2) true [1,2,3,4,5,6] none = .ok 7 := by rfl

/-- non-vacuity of the retry path: first candidate fails the brute-force gate, the second passes -/
example : build (T := Nat) (V := Nat)
    { attempt := fun seed _ => .ok seed, validate123 := fun _ => true, l4flip := fun _ => false,
      l4brute := fun t => t == 1, shuffle := fun _ v => v, deterministicErr := fun _ => false }
    3 true (.shuffled 2) true [1,2,3,4,5,6] none = .ok 1 := by rfl

end DM.C01
