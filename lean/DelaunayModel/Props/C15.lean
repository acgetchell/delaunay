/-
Props/C15.lean — property theorems for C15: every topology / adjacency query equals the direct
enumeration of the faces of the stored cells, and the indexed and the direct variants agree.

 * §1  `subsetsK` = sublists of a given length (sorted when the cell key is sorted)
 * §2  `facesK K k` = the distinct sorted `k`-subsets of the stored cells
 * §3  edges: `cellEdges`, `allEdges`, `incidentEdges`; `number_of_edges` = `#facesK K 2`
 * §4  adjacency index = direct queries (`vertexToCells`, `cellToNeighbors`)
 * §5  f-vector entries and the alternating sum `eulerChi`
 * §6  the Euler-characteristic classification table
 * §7  non-vacuity on the two-triangle complex of Props/C05
 * §8  the facet handshake (double counting of facet incidences over any enumeration `EnumKeys` of the
        facet keys: `handshake_of_enum`), closed complexes, `3F = 2E`
 * §9  non-vacuity of §8: the two triangles and the boundary of a tetrahedron

Helper lemmas live in Lemmas/QueryAux.lean, the general list facts in Lemmas/ListAux.lean.
Everything here is core-only.
-/
import DelaunayModel.Lemmas.QueryAux
import DelaunayModel.Props.C05
namespace DM.C15

open DM

/-! ## §1 `subsetsK` -/

theorem subsetsK_mem (k : Nat) (l s : List Nat) :
    s ∈ subsetsK k l ↔ s.Sublist l ∧ s.length = k := DM.subsetsK_mem

theorem subsetsK_length (k : Nat) (l s : List Nat) (h : s ∈ subsetsK k l) : s.length = k :=
  DM.subsetsK_length h

theorem subsetsK_sorted (k : Nat) (l s : List Nat) (hl : l.Pairwise (· ≤ ·))
    (h : s ∈ subsetsK k l) : s.Pairwise (· ≤ ·) := hl.sublist (subsetsK_sublist h)

theorem subsetsK_cellKey_sorted (k : Nat) (c : Cell) (s : List Nat)
    (h : s ∈ subsetsK k (cellKey c)) : s.Pairwise (· ≤ ·) :=
  subsetsK_sorted k _ s (sortNat_sorted c.vs) h

/-! ## §2 faces -/

theorem facesK_mem (K : Cx) (k : Nat) (f : List Nat) :
    f ∈ facesK K k ↔ ∃ c ∈ K.cells, f.Sublist (cellKey c) ∧ f.length = k := mem_facesK K k f

theorem facesK_nodup (K : Cx) (k : Nat) : (facesK K k).Nodup := DM.facesK_nodup K k

theorem facesK_sorted (K : Cx) (k : Nat) (f : List Nat) (h : f ∈ facesK K k) :
    f.Pairwise (· ≤ ·) := by
  obtain ⟨c, _, hs, _⟩ := (facesK_mem K k f).1 h
  exact (sortNat_sorted c.vs).sublist hs

/-- `f_{D-1}`: when every cell has `D + 1` vertices, the `D`-vertex faces are exactly the facet keys
(`facesK K D` enumerates each distinct facet key once) -/
theorem facesK_D_mem_iff_facetKey (K : Cx) (hlen : ∀ c ∈ K.cells, c.vs.length = K.D + 1)
    (f : List Nat) : f ∈ facesK K K.D ↔ ∃ t ∈ allFacets K, t.1 = f := by
  rw [facesK_mem]
  constructor
  · rintro ⟨c, hc, hs, hl⟩
    obtain ⟨i, hi, rfl⟩ := sublist_sortNat_eq_eraseIdx (l := c.vs) hs (by rw [hlen c hc, hl])
    exact ⟨_, mem_allFacets_of hc hi, rfl⟩
  · rintro ⟨t, ht, rfl⟩
    obtain ⟨c, hc, i, hi, rfl⟩ := mem_allFacets.1 ht
    refine ⟨c, hc, sortNat_eraseIdx_sublist c.vs i, ?_⟩
    show (facetKey c i).length = K.D
    unfold facetKey
    rw [sortNat_length, List.length_eraseIdx_of_lt hi, hlen c hc]
    rfl

theorem boundaryFacets_subset_faces (K : Cx) (hlen : ∀ c ∈ K.cells, c.vs.length = K.D + 1)
    (k : List Nat) (hk : k ∈ boundaryFacets K) : k ∈ facesK K K.D :=
  (facesK_D_mem_iff_facetKey K hlen k).2 (mem_boundaryFacets.1 hk).1

/-! ## §3 edges -/

theorem cellEdges_mem (c : Cell) (a b : Nat) :
    (a, b) ∈ cellEdges c ↔ [a, b].Sublist (cellKey c) :=
  mem_pairs_subsetsK (cellKey c) a b

theorem cellEdges_le (c : Cell) (a b : Nat) (h : (a, b) ∈ cellEdges c) : a ≤ b := by
  have hs := (sortNat_sorted c.vs).sublist ((cellEdges_mem c a b).1 h)
  simpa using hs

theorem allEdges_mem (K : Cx) (e : Nat × Nat) :
    e ∈ allEdges K ↔ ∃ c ∈ K.cells, e ∈ cellEdges c := by
  show e ∈ dedupL (K.cells.flatMap cellEdges) ↔ _
  rw [mem_dedupL, List.mem_flatMap]

theorem allEdges_nodup (K : Cx) : (allEdges K).Nodup := nodup_dedupL (K.cells.flatMap cellEdges)

theorem incidentEdges_mem (K : Cx) (v : Nat) (e : Nat × Nat) :
    e ∈ incidentEdges K v ↔ e ∈ allEdges K ∧ (e.1 = v ∨ e.2 = v) := by
  unfold incidentEdges
  simp only [List.mem_filter, Bool.or_eq_true, beq_iff_eq]

theorem incidentEdges_nodup (K : Cx) (v : Nat) : (incidentEdges K v).Nodup :=
  (allEdges_nodup K).sublist List.filter_sublist

theorem allEdges_eq_facesK2 (K : Cx) : allEdges K = (facesK K 2).map toPair := by
  unfold allEdges facesK
  have h1 : K.cells.flatMap cellEdges =
      (K.cells.flatMap (fun c => subsetsK 2 (cellKey c))).map toPair := by
    rw [List.map_flatMap]
    congr 1
    funext c
    exact cellEdges_eq_map c
  rw [h1, dedup_eq]
  refine dedupL_map toPair _ ?_
  intro x hx y hy hxy
  obtain ⟨_, _, hx'⟩ := List.mem_flatMap.1 hx
  obtain ⟨_, _, hy'⟩ := List.mem_flatMap.1 hy
  exact toPair_inj (DM.subsetsK_length hx') (DM.subsetsK_length hy') hxy

/-- `number_of_edges` (the length of the de-duplicated edge list) = number of 2-vertex faces -/
theorem allEdges_length_eq_facesK2 (K : Cx) : (allEdges K).length = (facesK K 2).length := by
  rw [allEdges_eq_facesK2, List.length_map]

theorem allEdges_mem_iff_facesK2 (K : Cx) (a b : Nat) :
    (a, b) ∈ allEdges K ↔ [a, b] ∈ facesK K 2 := by
  rw [allEdges_mem, facesK_mem]
  constructor
  · rintro ⟨c, hc, h⟩
    exact ⟨c, hc, (cellEdges_mem c a b).1 h, rfl⟩
  · rintro ⟨c, hc, h, _⟩
    exact ⟨c, hc, (cellEdges_mem c a b).2 h⟩

/-! ## §4 index = direct -/

theorem bucketGet_bucketPush_same {α : Type} (m : List (Nat × List α)) (k : Nat) (x : α) :
    bucketGet (bucketPush m k x) k = bucketGet m k ++ [x] := DM.bucketGet_bucketPush_same m k x

theorem bucketGet_bucketPush_other {α : Type} (m : List (Nat × List α)) (k k' : Nat) (x : α)
    (hne : k' ≠ k) : bucketGet (bucketPush m k x) k' = bucketGet m k' :=
  DM.bucketGet_bucketPush_other m k k' x hne

/-- from any starting map (the induction needs it) and with no assumption on the cells: bucket `v`
receives each cell id once per occurrence of `v` among the cell's slots -/
theorem vertexToCells_fold (cells : List Cell) (m : List (Nat × List Nat)) (v : Nat) :
    bucketGet (cells.foldl (fun m c => c.vs.foldl (fun m u => bucketPush m u c.id) m) m) v =
      bucketGet m v ++ cells.flatMap (fun c => List.replicate (c.vs.count v) c.id) := by
  induction cells generalizing m with
  | nil => simp
  | cons c cs ih =>
    rw [List.foldl_cons, ih, bucketGet_foldl_push, List.flatMap_cons, List.append_assoc]

theorem vertexToCells_get (K : Cx) (v : Nat) :
    bucketGet (vertexToCells K) v =
      K.cells.flatMap (fun c => List.replicate (c.vs.count v) c.id) := by
  unfold vertexToCells
  rw [vertexToCells_fold, bucketGet_nil, List.nil_append]

/-- index = direct query for cells without repeated vertices -/
theorem vertexToCells_eq_direct (K : Cx) (hnd : ∀ c ∈ K.cells, c.vs.Nodup) (v : Nat) :
    bucketGet (vertexToCells K) v = adjacentCells K v := by
  rw [vertexToCells_get]
  unfold adjacentCells
  generalize K.cells = cells at hnd
  induction cells with
  | nil => rfl
  | cons c cs ih =>
    have ih' := ih (fun d hd => hnd d (List.mem_cons_of_mem _ hd))
    rw [List.flatMap_cons, ih', count_of_nodup (hnd c List.mem_cons_self), List.filter_cons]
    split <;> simp

/-- index = direct query for cell → neighbours, with unique cell ids -/
theorem cellToNeighbors_eq_direct (K : Cx) (hnd : (K.cells.map (·.id)).Nodup) (c : Cell)
    (hc : c ∈ K.cells) : bucketGet (cellToNeighbors K) c.id = cellNeighbors c := by
  unfold bucketGet cellToNeighbors
  rw [lookup_map_key (·.id) cellNeighbors hnd hc]

/-! ## §5 f-vector and Euler characteristic -/

theorem fVector_length (K : Cx) : (fVector K).length = K.D + 1 := by
  unfold fVector
  split <;> simp

theorem fVector_getD (K : Cx) (hne : K.cells ≠ []) {k : Nat} (hk : k ≤ K.D) :
    (fVector K).getD k 0 = if k == 0 then K.verts.length else if k == K.D then K.cells.length
      else (facesK K (k + 1)).length := by
  unfold fVector
  rw [if_neg (by simpa using hne), List.getD_eq_getElem?_getD, List.getElem?_map,
    List.getElem?_range (by omega)]
  rfl

/-- For `K.D = 0` the entry at index `0 = K.D` is the number of stored vertices — the `k == 0` branch
comes first — hence `0 < K.D` in the second part. -/
theorem fVector_get (K : Cx) (hne : K.cells ≠ []) :
    (fVector K).getD 0 0 = K.verts.length ∧
    (0 < K.D → (fVector K).getD K.D 0 = K.cells.length) ∧
    (∀ k, 0 < k → k < K.D → (fVector K).getD k 0 = (facesK K (k + 1)).length) := by
  refine ⟨fVector_getD K hne (Nat.zero_le _), fun hD => ?_, fun k hk hkD => ?_⟩
  · rw [fVector_getD K hne (Nat.le_refl _), if_neg (by rw [beq_iff_eq]; omega),
      if_pos (beq_self_eq_true _)]
  · rw [fVector_getD K hne (Nat.le_of_lt hkD), if_neg (by rw [beq_iff_eq]; omega),
      if_neg (by rw [beq_iff_eq]; omega)]

theorem fVector_empty (K : Cx) (he : K.cells = []) :
    fVector K = ((K.verts.length :: List.replicate K.D 0).take (K.D + 1)).set K.D 0 := by
  unfold fVector
  simp [he]

theorem fVector_get_faces (K : Cx) (hne : K.cells ≠ []) (k : Nat) (hk : 0 < k) (hkD : k < K.D) :
    (fVector K).getD k 0 = (facesK K (k + 1)).length ∧ (facesK K (k + 1)).Nodup ∧
    ∀ f, f ∈ facesK K (k + 1) ↔ ∃ c ∈ K.cells, f.Sublist (cellKey c) ∧ f.length = k + 1 :=
  ⟨(fVector_get K hne).2.2 k hk hkD, facesK_nodup K _, facesK_mem K _⟩

/-- f₁ = `number_of_edges` when `2 ≤ D` -/
theorem fVector_one_eq_edges (K : Cx) (hne : K.cells ≠ []) (hD : 1 < K.D) :
    (fVector K).getD 1 0 = (allEdges K).length := by
  rw [allEdges_length_eq_facesK2]
  exact (fVector_get K hne).2.2 1 (Nat.lt_succ_self 0) hD

theorem eulerChi_cons (a : Nat) (rest : List Nat) :
    eulerChi (a :: rest) = (a : Int) - eulerChi rest := by
  rw [eulerChi_eq_altSum, eulerChi_eq_altSum, altSum_cons, altSum_succ]
  have h0 : altTerm (a, 0) = (a : Int) := rfl
  rw [h0]
  omega

theorem eulerChi_nil : eulerChi [] = 0 := rfl

theorem eulerChi_def :
    (∀ a : Nat, eulerChi [a] = a) ∧
    (∀ a b : Nat, eulerChi [a, b] = (a : Int) - b) ∧
    (∀ a b c : Nat, eulerChi [a, b, c] = (a : Int) - b + c) ∧
    (∀ a b c d : Nat, eulerChi [a, b, c, d] = (a : Int) - b + c - d) := by
  refine ⟨fun a => ?_, fun a b => ?_, fun a b c => ?_, fun a b c d => ?_⟩
  all_goals
    simp only [eulerChi_cons, eulerChi_nil]
    omega

/-! ## §6 classification table -/

inductive Class
  | empty
  | singleSimplex
  | ball
  | closedSphere
  deriving DecidableEq, Repr

def classify (K : Cx) : Class :=
  if K.cells.isEmpty then .empty
  else if K.cells.length == 1 then .singleSimplex
  else if !(boundaryFacets K).isEmpty then .ball
  else .closedSphere

theorem classification_table (K : Cx) :
    expectedChi K =
      match classify K with
      | .empty => 0
      | .singleSimplex => 1
      | .ball => 1
      | .closedSphere => 1 + (if K.D % 2 == 0 then 1 else -1) := by
  unfold expectedChi classify
  -- both sides run the same three tests in the same order
  cases K.cells.isEmpty <;> cases K.cells.length == 1 <;> cases (boundaryFacets K).isEmpty <;> rfl

theorem classify_ball_iff (K : Cx) :
    classify K = .ball ↔ 2 ≤ K.cells.length ∧ ∃ k, k ∈ boundaryFacets K := by
  unfold classify
  cases hc : K.cells with
  | nil => simp
  | cons c cs =>
    cases cs with
    | nil => simp
    | cons d ds =>
      cases hb : boundaryFacets K with
      | nil => simp
      | cons f fs => simp

/-! ## §7 non-vacuity -/

section TwoTri
open DM.C05

theorem twoTri_allEdges : allEdges twoTri = [(0, 1), (0, 2), (1, 2), (1, 3), (2, 3)] := by decide +kernel

theorem twoTri_allEdges_length : (allEdges twoTri).length = 5 := by
  rw [twoTri_allEdges]
  rfl

theorem twoTri_fVector : fVector twoTri = [4, 5, 2] := by decide +kernel

theorem twoTri_eulerChi : eulerChi (fVector twoTri) = 1 := by
  rw [twoTri_fVector]
  decide

theorem twoTri_boundary_length : (boundaryFacets twoTri).length = 4 := by decide +kernel

theorem twoTri_vertexToCells_1 : bucketGet (vertexToCells twoTri) 1 = [0, 1] := by decide +kernel

theorem twoTri_adjacentCells_1 : adjacentCells twoTri 1 = [0, 1] := by decide +kernel

theorem twoTri_cellToNeighbors_0 : bucketGet (cellToNeighbors twoTri) 0 = [1] := by decide +kernel

theorem twoTri_incidentEdges_1 : incidentEdges twoTri 1 = [(0, 1), (1, 2), (1, 3)] := by decide +kernel

theorem twoTri_classify : classify twoTri = .ball := by decide +kernel

theorem twoTri_expectedChi : expectedChi twoTri = 1 := by decide +kernel

end TwoTri

/-- the `Nodup` hypothesis of `vertexToCells_eq_direct` is needed: a cell with a repeated vertex is
listed twice by the index but once by the direct query (Level 1 rejects such a cell) -/
theorem vertexToCells_ne_direct_of_dup :
    let K : Cx := { D := 2, verts := [], cells := [⟨0, [1, 1, 2], none⟩] }
    bucketGet (vertexToCells K) 1 = [0, 0] ∧ adjacentCells K 1 = [0] := by decide +kernel

/-! ## §8 the facet handshake

Every cell of a `D`-complex contributes `D + 1` facet incidences `(key, cell, slot)`; grouping the
incidences by key counts every key as often as its degree.  No bound on the number of cells, on the
dimension or on the vertex ids is assumed anywhere in this section. -/

theorem allFacets_length (K : Cx) (hlen : ∀ c ∈ K.cells, c.vs.length = K.D + 1) :
    (allFacets K).length = (K.D + 1) * K.cells.length :=
  facetsOf_length K.cells (K.D + 1) hlen

theorem facetDeg_eq_count (K : Cx) (k : List Nat) :
    facetDeg K k = ((allFacets K).map (·.1)).count k := by
  unfold facetDeg
  rw [List.count_eq_countP, List.countP_map]
  rfl

/-- `keys` holds every facet key of `K` exactly once (`facesK K K.D` when every cell has `D + 1`
vertices, the de-duplicated key list always) -/
structure EnumKeys (K : Cx) (keys : List (List Nat)) : Prop where
  nodup : keys.Nodup
  mem_iff : ∀ k, k ∈ keys ↔ ∃ t ∈ allFacets K, t.1 = k

theorem dedup_keys_enum (K : Cx) : EnumKeys K (dedup ((allFacets K).map (·.1))) :=
  ⟨nodup_dedupL _, fun k => by rw [dedup_eq, mem_dedupL, List.mem_map]⟩

theorem facesK_D_enum (K : Cx) (hlen : ∀ c ∈ K.cells, c.vs.length = K.D + 1) :
    EnumKeys K (facesK K K.D) :=
  ⟨facesK_nodup K K.D, facesK_D_mem_iff_facetKey K hlen⟩

/-- the general double count, with no hypothesis on `K`: for any duplicate-free list `keys` that
contains every facet key, the number of facet incidences is the sum of the degrees -/
theorem facet_incidences_eq_sum_deg (K : Cx) (keys : List (List Nat)) (hnd : keys.Nodup)
    (hall : ∀ t ∈ allFacets K, t.1 ∈ keys) :
    (allFacets K).length = (keys.map (facetDeg K)).sum :=
  length_eq_sum_countP (fun t : List Nat × Nat × Nat => t.1) (allFacets K) keys hnd hall

theorem boundaryFacets_nodup (K : Cx) : (boundaryFacets K).Nodup := by
  rw [boundaryFacets_eq_filter]
  refine filter_count_one_nodup _ _ ?_
  intro k hk
  rw [← facetDeg_eq_count]
  simpa using hk

theorem boundaryFacets_length_of_enum {K : Cx} {keys : List (List Nat)} (he : EnumKeys K keys) :
    (boundaryFacets K).length = (keys.filter (fun k => facetDeg K k == 1)).length := by
  refine length_eq_of_nodup_of_mem_iff (boundaryFacets_nodup K) (he.nodup.sublist List.filter_sublist) ?_
  intro k
  rw [mem_boundaryFacets, List.mem_filter, he.mem_iff]
  simp

/-- **The handshake**: over any enumeration of the facet keys of a complex whose facets have
degree 1 or 2, #incidences = 2 · #(keys of degree 2) + #(keys of degree 1), and every key is of one
of the two kinds.  No hypothesis on the cell sizes. -/
theorem handshake_of_enum {K : Cx} {keys : List (List Nat)} (he : EnumKeys K keys)
    (hdeg : facetDegOk K = true) :
    (allFacets K).length =
      2 * (keys.filter (fun k => facetDeg K k == 2)).length +
        (keys.filter (fun k => facetDeg K k == 1)).length ∧
    keys.length = (keys.filter (fun k => facetDeg K k == 2)).length +
        (keys.filter (fun k => facetDeg K k == 1)).length := by
  rw [facet_incidences_eq_sum_deg K keys he.nodup fun t ht => (he.mem_iff t.1).2 ⟨t, ht, rfl⟩]
  refine sum_length_one_or_two keys (facetDeg K) ?_
  intro k hk
  obtain ⟨t, ht, rfl⟩ := (he.mem_iff k).1 hk
  exact (C05.facetDegOk_iff K).1 hdeg t ht

/-- without boundary every key has degree 2: #incidences = 2 · #keys -/
theorem closed_handshake_of_enum {K : Cx} {keys : List (List Nat)} (he : EnumKeys K keys)
    (hdeg : facetDegOk K = true) (hcl : boundaryFacets K = []) :
    (allFacets K).length = 2 * keys.length := by
  have h := handshake_of_enum he hdeg
  have hb := boundaryFacets_length_of_enum he
  rw [hcl, List.length_nil] at hb
  omega

/-- **handshake**: `(D + 1) · #cells = 2 · #(interior facets) + #(boundary facets)`, the distinct
facets being the `D`-vertex faces `facesK K K.D` -/
theorem handshake (K : Cx) (hlen : ∀ c ∈ K.cells, c.vs.length = K.D + 1)
    (hdeg : facetDegOk K = true) :
    (K.D + 1) * K.cells.length =
      2 * ((facesK K K.D).filter (fun k => facetDeg K k == 2)).length +
        ((facesK K K.D).filter (fun k => facetDeg K k == 1)).length :=
  allFacets_length K hlen ▸ (handshake_of_enum (facesK_D_enum K hlen) hdeg).1

theorem handshake_dedup (K : Cx) (hlen : ∀ c ∈ K.cells, c.vs.length = K.D + 1)
    (hdeg : facetDegOk K = true) :
    (K.D + 1) * K.cells.length =
      2 * ((dedup ((allFacets K).map (·.1))).filter (fun k => facetDeg K k == 2)).length +
        ((dedup ((allFacets K).map (·.1))).filter (fun k => facetDeg K k == 1)).length :=
  allFacets_length K hlen ▸ (handshake_of_enum (dedup_keys_enum K) hdeg).1

theorem boundaryFacets_length (K : Cx) (hlen : ∀ c ∈ K.cells, c.vs.length = K.D + 1) :
    (boundaryFacets K).length = ((facesK K K.D).filter (fun k => facetDeg K k == 1)).length :=
  boundaryFacets_length_of_enum (facesK_D_enum K hlen)

theorem boundaryFacets_length_dedup (K : Cx) :
    (boundaryFacets K).length =
      ((dedup ((allFacets K).map (·.1))).filter (fun k => facetDeg K k == 1)).length :=
  boundaryFacets_length_of_enum (dedup_keys_enum K)

theorem handshake_boundary (K : Cx) (hlen : ∀ c ∈ K.cells, c.vs.length = K.D + 1)
    (hdeg : facetDegOk K = true) :
    (K.D + 1) * K.cells.length =
      2 * ((facesK K K.D).filter (fun k => facetDeg K k == 2)).length +
        (boundaryFacets K).length := by
  rw [boundaryFacets_length K hlen]
  exact handshake K hlen hdeg

theorem facets_split (K : Cx) (hlen : ∀ c ∈ K.cells, c.vs.length = K.D + 1)
    (hdeg : facetDegOk K = true) :
    (facesK K K.D).length =
      ((facesK K K.D).filter (fun k => facetDeg K k == 2)).length + (boundaryFacets K).length := by
  rw [boundaryFacets_length K hlen]
  exact (handshake_of_enum (facesK_D_enum K hlen) hdeg).2

/-- **closed handshake**: without boundary (the periodic / toroidal mode, spheres),
`(D + 1) · #cells = 2 · #facets` -/
theorem closed_handshake (K : Cx) (hlen : ∀ c ∈ K.cells, c.vs.length = K.D + 1)
    (hdeg : facetDegOk K = true) (hcl : boundaryFacets K = []) :
    (K.D + 1) * K.cells.length = 2 * (facesK K K.D).length :=
  allFacets_length K hlen ▸ closed_handshake_of_enum (facesK_D_enum K hlen) hdeg hcl

theorem closed_handshake_dedup (K : Cx) (hlen : ∀ c ∈ K.cells, c.vs.length = K.D + 1)
    (hdeg : facetDegOk K = true) (hcl : boundaryFacets K = []) :
    (K.D + 1) * K.cells.length = 2 * (dedup ((allFacets K).map (·.1))).length :=
  allFacets_length K hlen ▸ closed_handshake_of_enum (dedup_keys_enum K) hdeg hcl

/-- closed surfaces: `3F = 2E` (`E` = number of 2-vertex faces = `number_of_edges`) -/
theorem closed_surface_3F_eq_2E (K : Cx) (hD : K.D = 2)
    (hlen : ∀ c ∈ K.cells, c.vs.length = K.D + 1) (hdeg : facetDegOk K = true)
    (hcl : boundaryFacets K = []) :
    3 * K.cells.length = 2 * (facesK K 2).length ∧
    3 * K.cells.length = 2 * (allEdges K).length := by
  have h := closed_handshake K hlen hdeg hcl
  rw [hD] at h
  exact ⟨h, by rw [allEdges_length_eq_facesK2]; exact h⟩

theorem fVector_surface (K : Cx) (hD : K.D = 2) :
    fVector K = [K.verts.length, if K.cells.isEmpty then 0 else (facesK K 2).length,
      K.cells.length] := by
  unfold fVector
  rw [hD]
  cases hc : K.cells with
  | nil => rfl
  | cons c cs => rfl

theorem closed_surface_fVector (K : Cx) (hD : K.D = 2)
    (hlen : ∀ c ∈ K.cells, c.vs.length = K.D + 1) (hdeg : facetDegOk K = true)
    (hcl : boundaryFacets K = []) :
    3 * (fVector K).getD 2 0 = 2 * (fVector K).getD 1 0 := by
  rw [fVector_surface K hD]
  have h := (closed_surface_3F_eq_2E K hD hlen hdeg hcl).1
  cases hc : K.cells with
  | nil => rfl
  | cons c cs =>
    rw [hc] at h
    simpa using h

/-- Euler characteristic of a closed surface from vertices and triangles only:
`2 χ = 2 V − F` (so `F` is even and `χ = V − F / 2`) -/
theorem closed_surface_euler (K : Cx) (hD : K.D = 2)
    (hlen : ∀ c ∈ K.cells, c.vs.length = K.D + 1) (hdeg : facetDegOk K = true)
    (hcl : boundaryFacets K = []) :
    2 * eulerChi (fVector K) = 2 * (K.verts.length : Int) - (K.cells.length : Int) := by
  rw [fVector_surface K hD, eulerChi_def.2.2.1]
  have h := (closed_surface_3F_eq_2E K hD hlen hdeg hcl).1
  cases hc : K.cells with
  | nil => simp
  | cons c cs =>
    rw [hc] at h
    simp only [List.isEmpty_cons, Bool.false_eq_true, ↓reduceIte]
    omega

/-! ## §9 non-vacuity of the handshake -/

/-- two triangles sharing an edge: `3 · 2 = 2 · 1 + 4` -/
theorem twoTri_handshake :
    (C05.twoTri.D + 1) * C05.twoTri.cells.length = 6 ∧
    (allFacets C05.twoTri).length = 6 ∧
    ((facesK C05.twoTri C05.twoTri.D).filter (fun k => facetDeg C05.twoTri k == 2)).length = 1 ∧
    ((facesK C05.twoTri C05.twoTri.D).filter (fun k => facetDeg C05.twoTri k == 1)).length = 4 ∧
    (boundaryFacets C05.twoTri).length = 4 ∧
    (facesK C05.twoTri C05.twoTri.D).length = 5 := by decide +kernel

theorem twoTri_handshake_inst :
    (C05.twoTri.D + 1) * C05.twoTri.cells.length =
      2 * ((facesK C05.twoTri C05.twoTri.D).filter (fun k => facetDeg C05.twoTri k == 2)).length +
        (boundaryFacets C05.twoTri).length :=
  handshake_boundary C05.twoTri (by decide +kernel) (by decide +kernel)

/-- the boundary of the tetrahedron `0123` as a closed 2-complex (4 triangles, 6 edges, 4 vertices;
vertex coordinates play no role for the counts) -/
def tetBoundary : Cx :=
  { D := 2
    verts := [⟨0, none, some 0⟩, ⟨1, none, some 0⟩, ⟨2, none, some 0⟩, ⟨3, none, some 1⟩]
    cells := [⟨0, [0, 1, 2], none⟩, ⟨1, [0, 3, 1], none⟩, ⟨2, [1, 3, 2], none⟩,
              ⟨3, [0, 2, 3], none⟩] }

/-- `3 · 4 = 2 · 6`, χ = 4 − 6 + 4 = 2 -/
theorem tetBoundary_counts :
    (tetBoundary.D + 1) * tetBoundary.cells.length = 12 ∧
    (allFacets tetBoundary).length = 12 ∧
    (facesK tetBoundary tetBoundary.D).length = 6 ∧
    (dedup ((allFacets tetBoundary).map (·.1))).length = 6 ∧
    fVector tetBoundary = [4, 6, 4] ∧
    eulerChi (fVector tetBoundary) = 2 := by decide +kernel

theorem tetBoundary_closed_handshake :
    3 * tetBoundary.cells.length = 2 * (facesK tetBoundary 2).length ∧
    2 * eulerChi (fVector tetBoundary) =
      2 * (tetBoundary.verts.length : Int) - (tetBoundary.cells.length : Int) := by
  have hlen : ∀ c ∈ tetBoundary.cells, c.vs.length = tetBoundary.D + 1 := by decide +kernel
  have hdeg : facetDegOk tetBoundary = true := by decide +kernel
  have hcl : boundaryFacets tetBoundary = [] := by decide +kernel
  exact ⟨(closed_surface_3F_eq_2E tetBoundary rfl hlen hdeg hcl).1,
    closed_surface_euler tetBoundary rfl hlen hdeg hcl⟩

/-- the degree hypothesis of the handshake is needed: three triangles on one edge (degree 3) break
`(D + 1) · #cells = 2 · #deg2 + #deg1` -/
theorem handshake_needs_degOk :
    let K : Cx := { D := 2, verts := [],
                    cells := [⟨0, [0, 1, 2], none⟩, ⟨1, [0, 1, 3], none⟩, ⟨2, [0, 1, 4], none⟩] }
    facetDegOk K = false ∧ (K.D + 1) * K.cells.length = 9 ∧
    2 * ((facesK K K.D).filter (fun k => facetDeg K k == 2)).length +
      ((facesK K K.D).filter (fun k => facetDeg K k == 1)).length = 6 := by decide +kernel

end DM.C15
