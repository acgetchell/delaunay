/-
Props/C18.lean — property theorems for C18 (exact simplex measures, Model/Measures.lean).

For a `D`-simplex `s` (`D + 1` integer points with `D` coordinates each):
 * §1  `vol2_perm`            (D!·V)² does not depend on the vertex order
 * §2  `volDet_edges_exact`   D!·V = (-1)^D · det (edge matrix, rows `p_i − p_0`);  `volDet_edges`
       (sign form); §3 and §4 follow from it
 * §3  `vol2_translate(')`    D!·V (signed) and its square are translation invariant
 * §4  `vol2_scale(')`        scaling all coordinates by `k` multiplies D!·V by `k^D`
 * §5  `degenerate_iff`, `vol2_nonneg`
 * §6  `gram_eq_det2`         det (E·Eᵀ) = (det E)² for a square edge matrix;
       `measure2_full_eq_vol2` the Gram-determinant measure of a full-dimensional simplex is (D!·V)²
 * §7  `sqrtBounds_spec`, `sqrtBounds_encloses`   lo/sc ≤ √(n/d) < hi/sc, exactly
 * §8  non-vacuity on the 3-4-5 right triangle
What is NOT proved here: anything about the floating-point evaluation in the Rust (the tie is K1
with a stated tolerance); `circumOffset` solving the circumcentre equations (Cramer's rule) is
only checked on the examples.

Helper lemmas live in Lemmas/MeasAux.lean (Mathlib: `Matrix.det` only).
-/
import DelaunayModel.Lemmas.MeasAux
namespace DM.C18

open DM DM.Measures

/-! ## §1 vertex order -/

theorem vol2_perm {D : Nat} {s s' : List IPt} (hl : s.length = D + 1)
    (hs : ∀ p ∈ s, p.length = D) (hp : s.Perm s') : vol2Num s' = vol2Num s := by
  unfold vol2Num volDet
  rcases orientDet_perm ⟨hl, hs⟩ hp with h | h <;> rw [h]
  exact neg_mul_neg _ _

/-! ## §2 edge matrix -/

theorem volDet_edges_exact {D : Nat} {s : List IPt} (hl : s.length = D + 1)
    (hs : ∀ p ∈ s, p.length = D) : volDet s = (-1) ^ D * det (edges0 s) :=
  orientDet_eq_edges ⟨hl, hs⟩

theorem volDet_edges {D : Nat} {s : List IPt} (hl : s.length = D + 1)
    (hs : ∀ p ∈ s, p.length = D) :
    ∃ σ : Int, (σ = 1 ∨ σ = -1) ∧ volDet s = σ * det (edges0 s) :=
  ⟨(-1) ^ D, neg_one_pow_eq_or ℤ D, volDet_edges_exact hl hs⟩

theorem volDet_edges_uniform (D : Nat) :
    ∃ σ : Int, (σ = 1 ∨ σ = -1) ∧ ∀ s : List IPt, s.length = D + 1 → (∀ p ∈ s, p.length = D) →
      volDet s = σ * det (edges0 s) :=
  ⟨(-1) ^ D, neg_one_pow_eq_or ℤ D, fun _ hl hs => volDet_edges_exact hl hs⟩

theorem vol2_eq_edges {D : Nat} {s : List IPt} (hl : s.length = D + 1)
    (hs : ∀ p ∈ s, p.length = D) : vol2Num s = det (edges0 s) * det (edges0 s) := by
  rw [vol2Num, volDet_edges_exact hl hs, mul_mul_mul_comm, ← mul_pow, neg_one_mul, neg_neg, one_pow,
    one_mul]

/-! ## §3 translation -/

theorem vol2_translate {D : Nat} {s : List IPt} (t : IPt) (hl : s.length = D + 1)
    (hs : ∀ p ∈ s, p.length = D) (ht : t.length = D) :
    volDet (s.map (fun p => List.zipWith (· + ·) p t)) = volDet s := by
  have h' := Simplex.map_vadd ⟨hl, hs⟩ ht
  show volDet (s.map (vadd · t)) = volDet s
  rw [volDet_edges_exact h'.1 h'.2, volDet_edges_exact hl hs, edges0_translate t s ht hs]

theorem vol2_translate' {D : Nat} {s : List IPt} (t : IPt) (hl : s.length = D + 1)
    (hs : ∀ p ∈ s, p.length = D) (ht : t.length = D) :
    vol2Num (s.map (fun p => List.zipWith (· + ·) p t)) = vol2Num s := by
  unfold vol2Num
  rw [vol2_translate t hl hs ht]

/-! ## §4 scaling -/

theorem vol2_scale {D : Nat} {s : List IPt} (k : Int) (hl : s.length = D + 1)
    (hs : ∀ p ∈ s, p.length = D) :
    volDet (s.map (fun p => p.map (k * ·))) = k ^ D * volDet s := by
  have h' := Simplex.map (f := fun p => p.map (k * ·)) ⟨hl, hs⟩ fun p hp => by
    rw [List.length_map, hp]
  rw [volDet_edges_exact h'.1 h'.2, volDet_edges_exact hl hs, edges0_scale,
    det_scale k (square_edges0 ⟨hl, hs⟩)]
  ring

theorem vol2_scale' {D : Nat} {s : List IPt} (k : Int) (hl : s.length = D + 1)
    (hs : ∀ p ∈ s, p.length = D) :
    vol2Num (s.map (fun p => p.map (k * ·))) = k ^ (2 * D) * vol2Num s := by
  unfold vol2Num
  rw [vol2_scale k hl hs]
  ring

/-! ## §5 degeneracy -/

theorem degenerate_iff (s : List IPt) : vol2Num s = 0 ↔ orientDet s = 0 := by
  unfold vol2Num volDet
  exact mul_self_eq_zero

theorem degenerate_iff_sign (s : List IPt) : vol2Num s = 0 ↔ orientSign s = 0 := by
  rw [degenerate_iff, orientSign, sgn_eq_sign, Int.sign_eq_zero_iff_zero]

theorem vol2_nonneg (s : List IPt) : 0 ≤ vol2Num s := mul_self_nonneg _

/-! ## §6 Gram determinant -/

theorem gram_eq_det2 {D : Nat} {E : List IPt} (h : Square D E) :
    det (gram E) = det E * det E := by
  obtain ⟨M, rfl⟩ := h.exists_rowsOf
  rw [gram_rowsOf, det_rowsOf, det_rowsOf, Matrix.det_mul, Matrix.det_transpose]

theorem measure2_full_eq_vol2 {D : Nat} {s : List IPt} (hl : s.length = D + 1)
    (hs : ∀ p ∈ s, p.length = D) : measure2Num s = vol2Num s := by
  unfold measure2Num
  rw [gram_eq_det2 (square_edges0 ⟨hl, hs⟩), vol2_eq_edges hl hs]

/-- §1, §3 and §4 carry over to `measure2Num` of a full-dimensional simplex in the same way, by
rewriting with `measure2_full_eq_vol2` -/
theorem measure2_full_nonneg {D : Nat} {s : List IPt} (hl : s.length = D + 1)
    (hs : ∀ p ∈ s, p.length = D) : 0 ≤ measure2Num s := by
  rw [measure2_full_eq_vol2 hl hs]; exact vol2_nonneg s

/-! ## §7 square-root enclosure -/

/-- `(lo, hi, sc) = sqrtBounds n d prec`: `lo² ≤ n·d·4^prec < hi²`, `hi = lo + 1`,
`sc = d·2^prec` -/
theorem sqrtBounds_spec (n d prec : Nat) :
    (sqrtBounds n d prec).1 * (sqrtBounds n d prec).1 ≤ n * d * 4 ^ prec ∧
    n * d * 4 ^ prec < (sqrtBounds n d prec).2.1 * (sqrtBounds n d prec).2.1 ∧
    (sqrtBounds n d prec).2.2 = d * 2 ^ prec ∧
    (sqrtBounds n d prec).2.1 = (sqrtBounds n d prec).1 + 1 :=
  ⟨Nat.sqrt_le _, Nat.lt_succ_sqrt _, rfl, rfl⟩

/-- for `d > 0` the bounds enclose `√(n/d)`: `(lo/sc)² ≤ n/d < (hi/sc)²`, cross-multiplied -/
theorem sqrtBounds_encloses (n d prec : Nat) (hd : 0 < d) :
    (sqrtBounds n d prec).1 * (sqrtBounds n d prec).1 * d ≤
      n * ((sqrtBounds n d prec).2.2 * (sqrtBounds n d prec).2.2) ∧
    n * ((sqrtBounds n d prec).2.2 * (sqrtBounds n d prec).2.2) <
      (sqrtBounds n d prec).2.1 * (sqrtBounds n d prec).2.1 * d := by
  obtain ⟨h1, h2, h3, _⟩ := sqrtBounds_spec n d prec
  have h4 : (4 : Nat) ^ prec = 2 ^ prec * 2 ^ prec := by
    rw [← Nat.mul_pow]
  have hsc : n * ((sqrtBounds n d prec).2.2 * (sqrtBounds n d prec).2.2) =
      n * d * 4 ^ prec * d := by
    rw [h3, h4]; ring
  rw [hsc]
  exact ⟨Nat.mul_le_mul_right d h1, Nat.mul_lt_mul_of_pos_right h2 hd⟩

/-! ## §8 non-vacuity: the 3-4-5 right triangle -/

def tri345 : List IPt := [[0, 0], [4, 0], [0, 3]]

/-- `2!·area = 12` (area 6), positively oriented -/
theorem tri345_volDet : volDet tri345 = 12 ∧ vol2Num tri345 = 144 ∧ orientSign tri345 = 1 := by
  decide +kernel

/-- the edge determinant and the Gram determinant agree with §2/§6 -/
theorem tri345_edges :
    edges0 tri345 = [[4, 0], [0, 3]] ∧ det (edges0 tri345) = 12 ∧
    gram (edges0 tri345) = [[16, 0], [0, 9]] ∧ measure2Num tri345 = 144 := by decide +kernel

/-- circumcentre offset `(2, 3/2)` from the right-angle vertex (numerators over `2·det E = 24`),
circumradius² `= 3600/576 = 25/4` (half the hypotenuse 5, squared) -/
theorem tri345_circum :
    circumOffset tri345 = ([48, 36], 24) ∧ circumradius2 tri345 = (3600, 576) ∧
    (circumradius2 tri345).1 * 4 = 25 * (circumradius2 tri345).2 := by decide +kernel

theorem leg_measure2 : measure2Num [[0, 0], [4, 0]] = 16 := by decide +kernel

/-- a 1-simplex in the plane (not full-dimensional) -/
theorem hyp_measure2 : measure2Num [[4, 0], [0, 3]] = 25 := by decide +kernel

theorem collinear_degenerate :
    vol2Num [[0, 0], [1, 1], [2, 2]] = 0 ∧ orientSign [[0, 0], [1, 1], [2, 2]] = 0 := by decide +kernel

theorem tri345_invariances :
    volDet [[4, 0], [0, 0], [0, 3]] = -12 ∧
    volDet (tri345.map (fun p => List.zipWith (· + ·) p [5, -7])) = 12 ∧
    volDet (tri345.map (fun p => p.map (3 * ·))) = 3 ^ 2 * 12 := by decide +kernel

/-- the hypotheses of the general theorems are satisfiable -/
theorem tri345_simplex : tri345.length = 2 + 1 ∧ ∀ p ∈ tri345, p.length = 2 := by decide +kernel

end DM.C18
