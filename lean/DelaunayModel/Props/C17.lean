/-
Props/C17.lean — property theorems for C17 (insertion orderings, batch dedup policies, and the
Hilbert / Morton index transforms).

Models: `Model/Order.lean`, `Model/Hilbert.lean`.  Helpers: `Lemmas/OrderAux.lean`,
`Lemmas/HilbertAux.lean`, `Lemmas/HilbertInverse.lean`, `Lemmas/HilbertAdjacent.lean`.

A. orderings
 * `insertKeyed_perm`, `sortKeyed_perm`, `orderLex_perm`, `orderMorton_perm`, `orderHilbert_perm`,
   `order_perm`: every strategy returns a permutation of its input (all inputs);
 * `sortKeyed_keys_sorted`, `orderByKey_keys_sorted`: primary keys are non-decreasing (all inputs);
 * `cmpKeyed_total`, `cmpKeyed_le_trans`, `sortKeyed_sorted_partial`, `orderByKey_sorted_partial`:
   full `cmpKeyed`-sortedness when all points have one common length;
   `sortKeyed_sorted_fails_ragged`: it is FALSE for points of different lengths (counterexample);
 * `order_input_id`.
B. dedup (any relation `near`)
 * `dedupGreedy_acc`, `dedupGreedy_sublist`, `dedupGreedy_separated`, `dedupGreedy_covered`
   (separation and cover as invariants of the accumulator: `dedupGreedy_pairwise`,
   `dedupGreedy_covered_acc`), and the instances `dedupExact_*`, `dedupEps_*`, `dedupExactSorted_*`.
C. Hilbert / Morton
 * `paramsOk_iff`; `interleave_lt`, `mortonCode_lt`, `hilbertIndex_lt` (all inputs);
 * `hilbertPoint` (Lemmas/HilbertAux.lean): the inverse transform, a two-sided inverse of `hilbertIndex`
   between the grid and the index range for ALL `D`, `b` (Lemmas/HilbertInverse.lean):
   `hilbert_bijective_all`, and for `1 ≤ D ≤ 5`, `D*b ≤ 10`: `hilbert_left_inverse`, `hilbert_in_grid`,
   `hilbert_bijective`;
 * adjacency: `adjacent_all` (all `D ≤ 5` and ALL depths `b`, by induction on `b` along the self-similarity
   of the curve, Lemmas/HilbertAdjacent.lean; per dimension only `cornerOk D`, a condition on how `2^D` blocks
   of one bit plane meet, is evaluated), with `hilbert_adjacent` for `1 ≤ D ≤ 5`, `D*b ≤ 10`;
 * `curveOk D b` the bundled table check, which holds for all `D ≤ 5` and all `b` (`curveOk_all`):
   `tbl_left_inverse_bool`, `tbl_adjacent`, `tbl_right_inverse`;
 * `mortonOk_all` (all `D`, `b`), `morton_round_trip_table`, `morton_injective_all`, `morton_injective` (from
   `deinterleave ∘ interleave = id` on the grid, all `D`, `b`).
 The `hilbert_*` and `morton_injective` theorems are stated for `1 ≤ D ≤ 5`, `D*b ≤ 10` resp. `1 ≤ D ≤ 3`,
 `D*b ≤ 9`, the `tbl_*` and `morton_round_trip_table` theorems under a table check; adjacency apart (`D ≤ 5`) their
 proofs need neither: `hilbert_bijective_all`, `morton_injective_all`, `adjacent_all` are the statements without
 the restrictions (the unused-variable linter reports the unused hypotheses at build).
-/
import DelaunayModel.Lemmas.OrderAux
import DelaunayModel.Lemmas.HilbertAdjacent
namespace DM.C17

open DM DM.Order DM.Hilbert DM.OrderAux DM.HilbertAux

/-! ## A. orderings -/

/-! ### every ordering is a permutation of its input -/

theorem insertKeyed_perm (x : Nat × OV) (l : List (Nat × OV)) : (insertKeyed x l).Perm (x :: l) :=
  OrderAux.insertKeyed_perm x l

theorem sortKeyed_perm (l : List (Nat × OV)) : (sortKeyed l).Perm l := OrderAux.sortKeyed_perm l

theorem orderLex_perm (vs : List OV) : (orderLex vs).Perm vs := orderByKey_perm _ vs

theorem orderMorton_perm (D : Nat) (vs : List OV) : (orderMorton D vs).Perm vs := by
  unfold orderMorton
  split
  · exact orderLex_perm vs
  · exact orderByKey_perm _ vs

theorem orderHilbert_perm (D : Nat) (vs : List OV) : (orderHilbert D vs).Perm vs := by
  unfold orderHilbert
  split
  · exact List.Perm.refl _
  · exact orderByKey_perm _ vs

/-- every strategy returns exactly the input vertices: none invented, none lost, multiplicities kept -/
theorem order_perm (D strategy : Nat) (vs : List OV) : (orderByStrategy D strategy vs).Perm vs := by
  unfold orderByStrategy
  split
  · exact List.Perm.refl _
  · exact orderLex_perm vs
  · exact orderMorton_perm D vs
  · exact orderHilbert_perm D vs

theorem order_length (D strategy : Nat) (vs : List OV) :
    (orderByStrategy D strategy vs).length = vs.length := (order_perm D strategy vs).length_eq

theorem order_mem (D strategy : Nat) (vs : List OV) (v : OV) :
    v ∈ orderByStrategy D strategy vs ↔ v ∈ vs := (order_perm D strategy vs).mem_iff

/-! ### sortedness -/

theorem sortKeyed_keys_sorted (l : List (Nat × OV)) : ((sortKeyed l).map (·.1)).Pairwise (· ≤ ·) :=
  List.pairwise_map.2 (sortKeyed_keys_le l)

/-- each ordering visits the vertices by non-decreasing key (all inputs) -/
theorem orderByKey_keys_sorted (key : OV → Nat) (vs : List OV) :
    ((orderByKey key vs).map key).Pairwise (· ≤ ·) :=
  List.pairwise_map.2 (orderByKey_pairwise key vs (sortKeyed_keys_le _))

theorem cmpKeyed_total {a b : Nat × OV} (h : cmpKeyed a b = .gt) : cmpKeyed b a ≠ .gt :=
  OrderAux.cmpKeyed_total h

theorem cmpKeyed_le_trans {a b c : Nat × OV} (hab : a.2.pt.length = b.2.pt.length)
    (hbc : b.2.pt.length = c.2.pt.length) :
    cmpKeyed a b ≠ .gt → cmpKeyed b c ≠ .gt → cmpKeyed a c ≠ .gt :=
  OrderAux.cmpKeyed_le_trans hab hbc

/-
Full statement (FALSE, see `sortKeyed_sorted_fails_ragged`):
  theorem sortKeyed_sorted (l) : (sortKeyed l).Pairwise (fun a b => cmpKeyed a b ≠ .gt)
`cmpPt` returns `.eq` as soon as either point runs out of coordinates, so for points of different
lengths `cmpKeyed` is not transitive.  Strongest true variant: all points of one length.
-/
theorem sortKeyed_sorted_partial {n : Nat} (l : List (Nat × OV)) (hl : ∀ p ∈ l, p.2.pt.length = n) :
    (sortKeyed l).Pairwise (fun a b => cmpKeyed a b ≠ .gt) :=
  sortKeyed_sorted l hl

/-- for vertices of one dimension, each ordering is sorted by (key, coordinates, input index) -/
theorem orderByKey_sorted_partial {n : Nat} (key : OV → Nat) (vs : List OV)
    (hl : ∀ v ∈ vs, v.pt.length = n) :
    (orderByKey key vs).Pairwise (fun u v => cmpKeyed (key u, u) (key v, v) ≠ .gt) := by
  refine orderByKey_pairwise key vs (sortKeyed_sorted (n := n) _ ?_)
  intro p hp
  obtain ⟨v, hv, rfl⟩ := List.mem_map.1 hp
  exact hl v hv

/-- counterexample to the unrestricted statement: three vertices with equal keys and points
`[2]`, `[]`, `[1]` (input indices 0, 1, 2) come out in input order, although `[2] > [1]` -/
theorem sortKeyed_sorted_fails_ragged :
    ∃ l : List (Nat × OV), ¬ (sortKeyed l).Pairwise (fun a b => cmpKeyed a b ≠ .gt) := by
  refine ⟨[(0, ⟨0, [⟨2, 0⟩]⟩), (0, ⟨1, []⟩), (0, ⟨2, [⟨1, 0⟩]⟩)], ?_⟩
  intro h
  have hs : sortKeyed [(0, (⟨0, [⟨2, 0⟩]⟩ : OV)), (0, ⟨1, []⟩), (0, ⟨2, [⟨1, 0⟩]⟩)]
      = [(0, ⟨0, [⟨2, 0⟩]⟩), (0, ⟨1, []⟩), (0, ⟨2, [⟨1, 0⟩]⟩)] := by rfl
  rw [hs] at h
  have h02 := (List.pairwise_cons.1 h).1 (0, ⟨2, [⟨1, 0⟩]⟩) (by simp)
  exact h02 (by decide +kernel)

/-! ### the Input strategy -/

theorem order_input_id (D : Nat) (vs : List OV) : orderByStrategy D 0 vs = vs := rfl

/-! ## B. dedup policies: greedy, first occurrence wins, for any relation `near` -/

/-- the accumulator form: the result is `kept` (oldest first) followed by a sublist of `rest` -/
theorem dedupGreedy_acc (near : DPt → DPt → Bool) (kept rest : List OV) :
    ∃ s, s.Sublist rest ∧ dedupGreedy near kept rest = kept.reverse ++ s := by
  induction rest generalizing kept with
  | nil => exact ⟨[], .slnil, by simp [dedupGreedy]⟩
  | cons v rest ih =>
    unfold dedupGreedy
    split
    · obtain ⟨s, hs, e⟩ := ih kept
      exact ⟨s, hs.cons v, e⟩
    · obtain ⟨s, hs, e⟩ := ih (v :: kept)
      exact ⟨v :: s, hs.cons_cons v, by simp [e]⟩

theorem mem_dedupGreedy_of_kept {near : DPt → DPt → Bool} {kept rest : List OV} {u : OV}
    (h : u ∈ kept) : u ∈ dedupGreedy near kept rest := by
  obtain ⟨s, _, e⟩ := dedupGreedy_acc near kept rest
  simp [e, h]

/-- survivors are drawn from the input, in input order, nothing invented or duplicated -/
theorem dedupGreedy_sublist (near : DPt → DPt → Bool) (vs : List OV) :
    (dedupGreedy near [] vs).Sublist vs := by
  obtain ⟨s, hs, e⟩ := dedupGreedy_acc near [] vs
  rw [e]
  exact hs

/-- separation is an invariant of the accumulator: a vertex joins only if it is `near` nothing kept -/
theorem dedupGreedy_pairwise (near : DPt → DPt → Bool) (kept rest : List OV)
    (h : kept.reverse.Pairwise (fun u v => near v.pt u.pt = false)) :
    (dedupGreedy near kept rest).Pairwise (fun u v => near v.pt u.pt = false) := by
  induction rest generalizing kept with
  | nil => exact h
  | cons w rest ih =>
    unfold dedupGreedy
    split
    · exact ih kept h
    · rename_i hany
      refine ih (w :: kept) ?_
      rw [List.reverse_cons, List.pairwise_append]
      refine ⟨h, List.pairwise_singleton _ _, fun u hu v hv => ?_⟩
      cases List.mem_singleton.1 hv
      simpa using fun hn => hany (List.any_eq_true.2 ⟨u, List.mem_reverse.1 hu, hn⟩)

/-- no survivor is `near` an earlier survivor -/
theorem dedupGreedy_separated (near : DPt → DPt → Bool) (vs : List OV) :
    (dedupGreedy near [] vs).Pairwise (fun u v => near v.pt u.pt = false) :=
  dedupGreedy_pairwise near [] vs List.Pairwise.nil

/-- a dropped vertex was `near` something kept, and what is kept stays (any accumulator) -/
theorem dedupGreedy_covered_acc (near : DPt → DPt → Bool) (kept rest : List OV) :
    ∀ v ∈ rest, v ∈ dedupGreedy near kept rest ∨
      ∃ u ∈ dedupGreedy near kept rest, near v.pt u.pt = true := by
  induction rest generalizing kept with
  | nil => simp
  | cons w rest ih =>
    intro v hv
    unfold dedupGreedy
    split
    · rename_i hany
      rcases List.mem_cons.1 hv with rfl | hv'
      · obtain ⟨u, hu, hn⟩ := List.any_eq_true.1 hany
        exact Or.inr ⟨u, mem_dedupGreedy_of_kept hu, hn⟩
      · exact ih kept v hv'
    · rcases List.mem_cons.1 hv with rfl | hv'
      · exact Or.inl (mem_dedupGreedy_of_kept List.mem_cons_self)
      · exact ih (w :: kept) v hv'

/-- every input vertex is a survivor or is `near` some survivor -/
theorem dedupGreedy_covered (near : DPt → DPt → Bool) (vs : List OV) :
    ∀ v ∈ vs, v ∈ dedupGreedy near [] vs ∨ ∃ u ∈ dedupGreedy near [] vs, near v.pt u.pt = true :=
  dedupGreedy_covered_acc near [] vs

theorem dedupGreedy_head (near : DPt → DPt → Bool) (v : OV) (vs : List OV) :
    (dedupGreedy near [] (v :: vs)).head? = some v := by
  obtain ⟨s, _, e⟩ := dedupGreedy_acc near [v] vs
  simp [dedupGreedy, e]

/-! ### the concrete policies -/

theorem dedupExact_sublist (vs : List OV) : (dedupExact vs).Sublist vs :=
  dedupGreedy_sublist sameCoords vs

theorem dedupExact_separated (vs : List OV) :
    (dedupExact vs).Pairwise (fun u v => sameCoords v.pt u.pt = false) :=
  dedupGreedy_separated sameCoords vs

theorem dedupExact_covered (vs : List OV) :
    ∀ v ∈ vs, v ∈ dedupExact vs ∨ ∃ u ∈ dedupExact vs, sameCoords v.pt u.pt = true :=
  dedupGreedy_covered sameCoords vs

theorem dedupEps_sublist (eps2 : Q) (vs : List OV) : (dedupEps eps2 vs).Sublist vs :=
  dedupGreedy_sublist (withinEps eps2) vs

theorem dedupEps_separated (eps2 : Q) (vs : List OV) :
    (dedupEps eps2 vs).Pairwise (fun u v => withinEps eps2 v.pt u.pt = false) :=
  dedupGreedy_separated (withinEps eps2) vs

theorem dedupEps_covered (eps2 : Q) (vs : List OV) :
    ∀ v ∈ vs, v ∈ dedupEps eps2 vs ∨ ∃ u ∈ dedupEps eps2 vs, withinEps eps2 v.pt u.pt = true :=
  dedupGreedy_covered (withinEps eps2) vs

theorem dedupExactSorted_perm_sublist (vs : List OV) :
    (dedupExactSorted vs).Sublist (orderLex vs) ∧ (orderLex vs).Perm vs :=
  ⟨dedupGreedy_sublist sameCoords (orderLex vs), orderLex_perm vs⟩

theorem dedupExactSorted_separated (vs : List OV) :
    (dedupExactSorted vs).Pairwise (fun u v => sameCoords v.pt u.pt = false) :=
  dedupGreedy_separated sameCoords (orderLex vs)

theorem dedupExactSorted_covered (vs : List OV) :
    ∀ v ∈ vs, v ∈ dedupExactSorted vs ∨ ∃ u ∈ dedupExactSorted vs, sameCoords v.pt u.pt = true :=
  fun v hv => dedupGreedy_covered sameCoords (orderLex vs) v ((orderLex_perm vs).mem_iff.2 hv)

theorem dedupExactSorted_subset (vs : List OV) : ∀ v ∈ dedupExactSorted vs, v ∈ vs :=
  fun _ hv => (orderLex_perm vs).mem_iff.1 ((dedupExactSorted_perm_sublist vs).1.subset hv)

/-! ## C. Hilbert / Morton -/

/-! ### parameter validation -/

theorem paramsOk_iff (D bits : Nat) : paramsOk D bits = true ↔ 1 ≤ bits ∧ bits ≤ 31 ∧ D * bits ≤ 128 := by
  simp [paramsOk, and_assoc]

/-! ### index range, for ALL coordinate lists (each step keeps one bit per coordinate) -/

theorem interleave_lt (bits : Nat) (t : List Nat) : interleave bits t < 2 ^ (bits * t.length) :=
  HilbertAux.interleave_lt bits t

theorem mortonCode_lt (bits : Nat) (q : List Nat) : mortonCode bits q < 2 ^ (bits * q.length) :=
  HilbertAux.interleave_lt bits q

theorem hilbertIndex_lt (bits : Nat) (c : List Nat) : hilbertIndex bits c < 2 ^ (bits * c.length) :=
  HilbertAux.hilbertIndex_lt bits c

/-! ### the inverse transform

`hilbertPoint D bits index` (Lemmas/HilbertAux.lean) de-interleaves `index`, undoes the Gray step
(`t = X[D-1] >> 1; X[i] ^= X[i-1]; X[0] ^= t`) and undoes the excess work with masks `2, 4, …,
2^(bits-1)`, visiting the coordinates from the last to the first.  It inverts `hilbertIndex bits` on the
grid for EVERY `D` and `bits` (Lemmas/HilbertInverse.lean).  `curveOk D b` bundles left inverse, range and
adjacency (`chain (curvePts D b)`) into one check; of the three its hypothesis is needed below for adjacency
alone. -/

theorem tbl_left_inverse_bool {D b : Nat} (h : curveOk D b = true) :
    (List.range (2 ^ (D * b))).all (fun i => hilbertIndex b (hilbertPoint D b i) == i) = true := by
  simp only [List.all_eq_true, List.mem_range, beq_iff_eq]
  exact fun i hi => (hilbertIndex_hilbertPoint D b hi).1

theorem tbl_adjacent {D b : Nat} (h : curveOk D b = true) :
    ∀ i, i + 1 < 2 ^ (D * b) → l1 (hilbertPoint D b i) (hilbertPoint D b (i + 1)) = 1 := by
  simp only [curveOk, Bool.and_eq_true] at h
  exact chain_curvePts_iff.1 h.2

theorem tbl_right_inverse {D b : Nat} (h : curveOk D b = true) (c : List Nat)
    (hl : c.length = D) (hc : ∀ x ∈ c, x < 2 ^ b) :
    hilbertIndex b c < 2 ^ (D * b) ∧ hilbertPoint D b (hilbertIndex b c) = c :=
  ⟨hilbertIndex_lt_of_length hl, hilbertPoint_hilbertIndex ⟨hl, hc⟩⟩

/-! ### bijectivity, for every dimension and bit depth -/

/-- `hilbertIndex b` restricted to the grid `[0,2^b)^D` is a bijection onto `[0, 2^(D*b))` -/
theorem hilbert_bijective_all (D b : Nat) :
    (∀ i, i < 2 ^ (D * b) → ∃ c, c.length = D ∧ (∀ x ∈ c, x < 2 ^ b) ∧ hilbertIndex b c = i) ∧
    (∀ c, c.length = D → (∀ x ∈ c, x < 2 ^ b) → hilbertIndex b c < 2 ^ (D * b)) ∧
    (∀ c₁ c₂, c₁.length = D → (∀ x ∈ c₁, x < 2 ^ b) → c₂.length = D → (∀ x ∈ c₂, x < 2 ^ b) →
      hilbertIndex b c₁ = hilbertIndex b c₂ → c₁ = c₂) := by
  refine ⟨?_, ?_, ?_⟩
  · intro i hi
    obtain ⟨c, hc, e⟩ := hilbertIndex_surj D b hi
    exact ⟨c, hc.1, hc.2, e⟩
  · exact fun c hl _ => hilbertIndex_lt_of_length hl
  · exact fun c₁ c₂ hl₁ hc₁ hl₂ hc₂ he => hilbertIndex_injOn ⟨hl₁, hc₁⟩ ⟨hl₂, hc₂⟩ he

/-! ### adjacency: every `D ≤ 5` and EVERY depth `b` (self-similarity of the curve, Lemmas/HilbertAdjacent.lean;
per dimension only a condition on one bit plane, `cornerOk D`, is evaluated) -/

theorem adjacent_all {D : Nat} (hD : D ≤ 5) (b : Nat) :
    ∀ i, i + 1 < 2 ^ (D * b) → l1 (hilbertPoint D b i) (hilbertPoint D b (i + 1)) = 1 :=
  adjacent_of_cornerOk (cornerOk_le_five D hD) b

/-- the bundled check holds wherever adjacency is proved -/
theorem curveOk_all {D : Nat} (hD : D ≤ 5) (b : Nat) : curveOk D b = true := by
  have hp := fun i (hi : i ∈ List.range (2 ^ (D * b))) => hilbertIndex_hilbertPoint D b (List.mem_range.1 hi)
  simp only [curveOk, Bool.and_eq_true, chain_curvePts_iff]
  simp only [curvePts, beq_iff_eq, List.map_map, List.all_map, List.all_eq_true, Function.comp_def,
    Bool.and_eq_true, decide_eq_true_eq]
  exact ⟨⟨(List.map_congr_left fun i hi => (hp i hi).1).trans (List.map_id' _),
    fun i hi => ⟨(hp i hi).2.1, (hp i hi).2.2⟩⟩, adjacent_all hD b⟩

variable {D b : Nat}

theorem hilbert_left_inverse (hD : 1 ≤ D) (hD' : D ≤ 5) (hb : 1 ≤ b) (h : D * b ≤ 10) :
    ∀ i, i < 2 ^ (D * b) → hilbertIndex b (hilbertPoint D b i) = i :=
  fun _ hi => (hilbertIndex_hilbertPoint D b hi).1

theorem hilbert_in_grid (hD : 1 ≤ D) (hD' : D ≤ 5) (hb : 1 ≤ b) (h : D * b ≤ 10) :
    ∀ i, i < 2 ^ (D * b) →
      (hilbertPoint D b i).length = D ∧ ∀ x ∈ hilbertPoint D b i, x < 2 ^ b :=
  fun _ hi => (hilbertIndex_hilbertPoint D b hi).2

/-- consecutive curve points agree in all coordinates but one, where they differ by exactly 1 -/
theorem hilbert_adjacent (hD : 1 ≤ D) (hD' : D ≤ 5) (hb : 1 ≤ b) (h : D * b ≤ 10) :
    ∀ i, i + 1 < 2 ^ (D * b) → ∃ pre x y post,
      hilbertPoint D b i = pre ++ x :: post ∧ hilbertPoint D b (i + 1) = pre ++ y :: post ∧
        (x + 1 = y ∨ y + 1 = x) := by
  intro i hi
  have h1 := (hilbertIndex_hilbertPoint D b (Nat.lt_of_succ_lt hi)).2
  have h2 := (hilbertIndex_hilbertPoint D b hi).2
  exact l1_eq_one (h1.1.trans h2.1.symm) (adjacent_all hD' b i hi)

theorem hilbert_bijective (hD : 1 ≤ D) (hD' : D ≤ 5) (hb : 1 ≤ b) (h : D * b ≤ 10) :
    (∀ i, i < 2 ^ (D * b) → ∃ c, c.length = D ∧ (∀ x ∈ c, x < 2 ^ b) ∧ hilbertIndex b c = i) ∧
    (∀ c, c.length = D → (∀ x ∈ c, x < 2 ^ b) → hilbertIndex b c < 2 ^ (D * b)) ∧
    (∀ c₁ c₂, c₁.length = D → (∀ x ∈ c₁, x < 2 ^ b) → c₂.length = D → (∀ x ∈ c₂, x < 2 ^ b) →
      hilbertIndex b c₁ = hilbertIndex b c₂ → c₁ = c₂) :=
  hilbert_bijective_all D b

/-! ### Morton codes are injective on the grid, for every dimension and bit depth -/

theorem morton_round_trip_table (h : mortonOk D b = true) (c : List Nat) (hl : c.length = D)
    (hc : ∀ x ∈ c, x < 2 ^ b) :
    mortonCode b c < 2 ^ (D * b) ∧ deinterleave D b (mortonCode b c) = c :=
  ⟨interleave_lt_of_length hl, deinterleave_interleave_inGrid ⟨hl, hc⟩⟩

theorem mortonOk_all (D b : Nat) : mortonOk D b = true := by
  simp only [mortonOk, List.all_eq_true, Bool.and_eq_true, decide_eq_true_eq, beq_iff_eq]
  intro c hc
  have hc := mem_grid.1 hc
  exact ⟨interleave_lt_of_length hc.1, deinterleave_interleave_inGrid hc⟩

/-- `deinterleave D b` inverts `mortonCode b` on the grid, hence distinct cells get distinct codes -/
theorem morton_injective_all (D b : Nat) :
    ∀ c₁ c₂, c₁.length = D → (∀ x ∈ c₁, x < 2 ^ b) → c₂.length = D → (∀ x ∈ c₂, x < 2 ^ b) →
      mortonCode b c₁ = mortonCode b c₂ → c₁ = c₂ := by
  intro c₁ c₂ hl₁ hc₁ hl₂ hc₂ he
  rw [← deinterleave_interleave_inGrid ⟨hl₁, hc₁⟩, ← deinterleave_interleave_inGrid ⟨hl₂, hc₂⟩]
  exact congrArg _ he

theorem morton_injective (hD : 1 ≤ D) (hD' : D ≤ 3) (hb : 1 ≤ b) (h : D * b ≤ 9) :
    ∀ c₁ c₂, c₁.length = D → (∀ x ∈ c₁, x < 2 ^ b) → c₂.length = D → (∀ x ∈ c₂, x < 2 ^ b) →
      mortonCode b c₁ = mortonCode b c₂ → c₁ = c₂ :=
  morton_injective_all D b

end DM.C17
