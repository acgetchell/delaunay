/-
Props/C11.lean — property theorems for C11 (the hull view is the true hull and never serves
stale data).

 * `gen_stale` (over `gen_counts_changes`; `gen_monotone`): for ANY history of mutating calls on one
   triangulation object in which every call satisfies `stepOk` (counter never decreases; it
   increases whenever the observable structure changed — what the K2 monitor checks on the real
   code after every call, failed and rolled-back ones included): if the counter at query time
   equals the counter at hull creation, no call in between changed the structure.  Hence
   (`guarded_answer_fresh`) a guarded query either reports staleness or answers about the structure
   the hull was created from.
 * `nearest_spec`: the nearest visible facet is a visible facet of least key.
 * `hullFacets_def`: the model's hull = facets incident to exactly one cell (`boundaryFacets`),
   closedness is C05's `closedBoundary_iff`.
 * hull after insertion (last section, Model/Cavity.lean): which facets are hull facets after a
   cavity / hull-extension step, for all cell lists — `hull_after_old_facet`, `hull_after_interior`,
   `hull_after_extension(_conflict)`, `hull_after_new_facet`, `hull_after_mem`, `hull_count_*`.
Scope: histories of calls on one triangulation value.  A fresh Tds moved into place (bootstrap at
D+1 vertices, heuristic rebuild `*self = candidate`) used to restart the counter at 0, which breaks
`stepOk` (the counter goes back) and let an old hull answer about a different triangulation
(`restart_witness`; defect F14, fixed: the replacing Tds continues the sequence).  The K2 monitor
checks `stepOk` itself after every call, and a hull created at the start of a history is queried
after every later call.  Deserialisation creates a NEW value (no hull of it can pre-exist).
Not proved: visibility completeness (point outside ⇒ some facet visible) — needs the facet
description of a convex hull; tied by K1 only.
-/
import DelaunayModel.Model.Gen
import DelaunayModel.Lemmas.HullStepAux
namespace DM.C11

open DM.Gen

theorem stepOk_iff (o : Obs) :
    stepOk o = true ↔ o.g0 ≤ o.g1 ∧ (o.changed = true → o.g0 < o.g1) := by
  cases h : o.changed <;> simp [stepOk, h]

theorem gen_counts_changes (g : Nat) (os : List Obs) (hc : chained g os = true)
    (hok : ∀ o ∈ os, stepOk o = true) : g + os.countP (·.changed) ≤ finalGen g os := by
  induction os generalizing g with
  | nil => exact Nat.le_refl _
  | cons o rest ih =>
    simp only [chained, Bool.and_eq_true, beq_iff_eq] at hc
    obtain ⟨hle, hlt⟩ := (stepOk_iff o).1 (hok o List.mem_cons_self)
    have := ih o.g1 hc.2 fun x hx => hok x (List.mem_cons_of_mem _ hx)
    rw [List.countP_cons, finalGen]
    -- the step did not move the counter back, and moved it on if it changed the structure
    split
    · have := hlt ‹_›
      omega
    · omega

theorem gen_monotone (g : Nat) (os : List Obs) (hc : chained g os = true)
    (hok : ∀ o ∈ os, stepOk o = true) : g ≤ finalGen g os :=
  Nat.le_trans (Nat.le_add_right _ _) (gen_counts_changes g os hc hok)

/-- **no stale answers**: equal generations ⇒ nothing changed in between -/
theorem gen_stale (g : Nat) (os : List Obs) (hc : chained g os = true)
    (hok : ∀ o ∈ os, stepOk o = true) (heq : finalGen g os = g) :
    ∀ o ∈ os, o.changed = false := by
  have h0 : os.countP (·.changed) = 0 := by
    have := gen_counts_changes g os hc hok
    omega
  exact fun o ho => Bool.eq_false_iff.2 (List.countP_eq_zero.1 h0 o ho)

theorem guarded_answer_fresh {α : Type} (creation now : Nat) (f : Unit → α) (a : α)
    (h : guardedQuery creation now f = .answer a) : creation = now ∧ a = f () := by
  unfold guardedQuery at h
  split at h <;> cases h
  rename_i hne
  exact ⟨Decidable.of_not_not fun e => hne (bne_iff_ne.2 e), rfl⟩

theorem guarded_stale_after_change {α : Type} (g : Nat) (os : List Obs) (f : Unit → α)
    (hc : chained g os = true) (hok : ∀ o ∈ os, stepOk o = true)
    (hch : ∃ o ∈ os, o.changed = true) : guardedQuery g (finalGen g os) f = .stale := by
  obtain ⟨o, ho, hcg⟩ := hch
  have hne : g ≠ finalGen g os := fun heq => by
    rw [gen_stale g os hc hok heq.symm o ho] at hcg
    cases hcg
  rw [guardedQuery, if_pos (bne_iff_ne.2 hne)]

/-- why monotonicity is needed (defect F14): if a call may move the counter BACK, a history that
changes the structure twice can end at the creation generation, and the guard then answers.
Remove (4 → 8), re-bootstrap with a restarted counter (8 → 4). -/
theorem restart_witness :
    let os : List Obs := [⟨true, 4, 8⟩, ⟨true, 8, 4⟩]
    chained 4 os = true ∧ (∃ o ∈ os, o.changed = true) ∧ (∃ o ∈ os, stepOk o = false) ∧
    guardedQuery 4 (finalGen 4 os) (fun _ => ()) = .answer () := by
  refine ⟨by decide +kernel, ⟨⟨true, 4, 8⟩, by simp, rfl⟩,
    ⟨⟨true, 8, 4⟩, by simp, by decide +kernel⟩, ?_⟩
  simp [guardedQuery, finalGen]

theorem hullFacets_def (K : Cx) (k : List Nat) :
    k ∈ boundaryFacets K ↔ ∃ f ∈ allFacets K, f.1 = k ∧ facetDeg K f.1 = 1 := by
  rw [mem_boundaryFacets]
  constructor
  · rintro ⟨⟨f, hf, rfl⟩, hd⟩
    exact ⟨f, hf, rfl, hd⟩
  · rintro ⟨f, hf, rfl, hd⟩
    exact ⟨⟨f, hf, rfl⟩, hd⟩

/-- non-vacuity: a 3-call history (unchanged/rolled back, changed, unchanged) is accepted, the
counter moved, and a hull created before it is stale afterwards -/
example : chained 5 [⟨false, 5, 6⟩, ⟨true, 6, 9⟩, ⟨false, 9, 9⟩] = true ∧
    (∀ o ∈ [(⟨false, 5, 6⟩ : Obs), ⟨true, 6, 9⟩, ⟨false, 9, 9⟩], stepOk o = true) ∧
    finalGen 5 [⟨false, 5, 6⟩, ⟨true, 6, 9⟩, ⟨false, 9, 9⟩] = 9 := by decide +kernel

end DM.C11

/-! ### nearest visible facet -/
namespace DM.C11
open DM.Hull

theorem nearest_none_iff (fs : List (Nat × Int)) : nearest fs = none ↔ fs = [] := by
  cases fs with
  | nil => simp [nearest]
  | cons f rest =>
    simp only [nearest, reduceCtorEq, iff_false]
    cases nearest rest with
    | none => simp
    | some g => by_cases h : f.2 ≤ g.2 <;> simp [h]

theorem nearest_spec {fs : List (Nat × Int)} {g : Nat × Int} (h : nearest fs = some g) :
    g ∈ fs ∧ ∀ f ∈ fs, g.2 ≤ f.2 := by
  induction fs generalizing g with
  | nil => cases h
  | cons f rest ih =>
    unfold nearest at h
    cases hr : nearest rest with
    | none =>
      obtain rfl := (nearest_none_iff rest).1 hr
      cases h
      simp
    | some g' =>
      rw [hr] at h
      dsimp only at h
      split at h <;> cases h
      · exact ⟨List.mem_cons_self, List.forall_mem_cons.2
          ⟨Int.le_refl _, fun x hx => Int.le_trans ‹_› ((ih hr).2 x hx)⟩⟩
      · exact ⟨List.mem_cons_of_mem _ (ih hr).1, List.forall_mem_cons.2 ⟨by omega, (ih hr).2⟩⟩

theorem nearest_mem (fs : List (Nat × Int)) (g : Nat × Int) (h : nearest fs = some g) : g ∈ fs :=
  (nearest_spec h).1

theorem nearest_minimal (fs : List (Nat × Int)) (g : Nat × Int) (h : nearest fs = some g) :
    ∀ f ∈ fs, g.2 ≤ f.2 :=
  (nearest_spec h).2

example : nearest [(0, 12797), (1, 12477), (2, 14579), (3, 11358)] = some (3, 11358) := by decide +kernel

end DM.C11

/-! ## The hull after a cavity / hull-extension step

How the boundary (hull) of the abstract complex changes under `cavityInsertWith cells C F v`
(Model/Cavity.lean: drop the cells `C`, add the cone from the new vertex `v` over the facets `F`),
for ALL cell lists.  `bdry cells` (Lemmas/HullStepAux.lean, `= cavityBoundary cells`) is the list of
facets incident to exactly one cell — the hull facets of `hullFacets_def` on key lists.
 * §h1 facets without `v`: `hull_after_old_facet` (general `C`, `F`), and the readable instances
       `hull_after_interior` (hull unchanged), `hull_after_extension` (visible facets leave),
       `hull_after_extension_conflict` (both at once: conflict region and visible facets)
 * §h2 facets through `v`: `hull_after_new_facet` — cones over the horizon ridges — and conversely
       `hull_facet_through_v`
 * §h3 `hull_after_mem`: every hull facet afterwards is of one of the two kinds
 * §h4 the hull afterwards up to order (`hull_after_perm`), hence the counts `hull_count_extension`,
       `hull_count_extension_conflict`, `hull_count_interior`
 * §h5 examples (kernel evaluation), among them the counterexample `hull_after_interior_needs_le_two`
Combinatorial only: WHICH facets are visible is geometry (see the scope note at the top).
Helper lemmas: Lemmas/HullStepAux.lean, Lemmas/CavityAux.lean.  Core only.
-/
namespace DM.C11

/-! ### §h1 facets without the new vertex -/

theorem hull_after_old_facet {cells C F : List (List Nat)} {v : Nat} (hnd : cells.Nodup)
    (hC : C.Nodup) (hsub : ∀ c ∈ C, c ∈ cells) (hF : F.Nodup)
    (hFs : ∀ f ∈ F, f.Pairwise (· < ·)) (hvF : ∀ f ∈ F, v ∉ f) {f : List Nat} (hvf : v ∉ f) :
    f ∈ bdry (cavityInsertWith cells C F v) ↔
      facetCount cells f - facetCount C f + (if f ∈ F then 1 else 0) = 1 := by
  rw [mem_bdry, facetCount_step_old hnd hC hsub hF hFs hvF hvf]

/-- **old facets, hull extension with conflict region** (`V` the visible hull facets, `F` the
symmetric difference of `bdry C` and `V`, e.g. `hullStepFacets C V`): the hull afterwards consists of
the old hull facets that are not visible, for a facet that has degree ≤ 2 if it is a facet of a
removed cell.  Instances: `V = []` (`hull_after_interior`), `C = []` (`hull_after_extension`, where
the degree condition is empty). -/
theorem hull_after_extension_conflict {cells C F V : List (List Nat)} {v : Nat} (hnd : cells.Nodup)
    (hs : ∀ c ∈ cells, c.Pairwise (· < ·)) (hC : C.Nodup) (hsub : ∀ c ∈ C, c ∈ cells)
    (hfresh : ∀ c ∈ cells, v ∉ c) (hF : F.Nodup) (hVb : ∀ f ∈ V, f ∈ bdry cells)
    (hFV : ∀ f, f ∈ F ↔ (f ∈ bdry C ∧ f ∉ V) ∨ (f ∈ V ∧ f ∉ bdry C))
    {f : List Nat} (hvf : v ∉ f) (h2 : f ∈ cellFacets C → facetCount cells f ≤ 2) :
    f ∈ bdry (cavityInsertWith cells C F v) ↔ f ∈ bdry cells ∧ f ∉ V := by
  obtain ⟨hFs, hvF⟩ := bdry_facets_ok hs hsub hfresh hVb hFV
  rw [hull_after_old_facet hnd hC hsub hF hFs hvF hvf, mem_bdry]
  have hle := facetCount_sub_le hnd hC hsub f
  have hmem := hFV f
  rw [mem_bdry] at hmem
  -- `f` is coned iff exactly one of "boundary facet of `C`" (`k = 1`), "visible" holds
  by_cases hfV : f ∈ V
  · have h1 := mem_bdry.1 (hVb f hfV)
    -- visible (degree 1 before): the degree afterwards is `1 - 1 + 0 = 0` or `1 - 0 + 1 = 2`, never 1
    refine iff_of_false (fun h => ?_) fun h => h.2 hfV
    by_cases hk : facetCount C f = 1
    · rw [if_neg fun hF => (hmem.1 hF).elim (fun h => h.2 hfV) fun h => h.2 hk] at h
      omega
    · rw [if_pos (hmem.2 (Or.inr ⟨hfV, hk⟩))] at h
      omega
  · -- not visible: `d - k + [k = 1] = 1 ↔ d = 1` for `k = 0`, and for `k ≤ d ≤ 2`
    rw [and_iff_left hfV]
    have h2' : facetCount C f = 0 ∨ facetCount cells f ≤ 2 :=
      (Nat.eq_zero_or_pos _).imp_right fun h => h2 (facetCount_pos_iff.1 h)
    by_cases hk : facetCount C f = 1
    · rw [if_pos (hmem.2 (Or.inl ⟨hk, hfV⟩))]
      omega
    · rw [if_neg fun hF => (hmem.1 hF).elim (fun h => hk h.1) fun h => hfV h.1]
      omega

/-- **old facets, interior insertion** (every boundary facet of the removed region coned): the hull
does not change as a set of facets — also when the removed region touches the hull (a hull facet of
a removed cell has degree 1 − 1 + 1 = 1: it is now the base of its cone cell).  The degree bound is
needed: `hull_after_interior_needs_le_two`. -/
theorem hull_after_interior {cells C : List (List Nat)} {v : Nat} (hnd : cells.Nodup)
    (hs : ∀ c ∈ cells, c.Pairwise (· < ·)) (hC : C.Nodup) (hsub : ∀ c ∈ C, c ∈ cells)
    (hfresh : ∀ c ∈ cells, v ∉ c) {f : List Nat} (hvf : v ∉ f) (h2 : facetCount cells f ≤ 2) :
    f ∈ bdry (cavityInsert cells C v) ↔ f ∈ bdry cells := by
  have := hull_after_extension_conflict (V := []) hnd hs hC hsub hfresh (cavityBoundary_nodup C)
    (by simp) (fun g => by simp [bdry]) hvf fun _ => h2
  simpa [cavityInsert] using this

theorem hull_after_extension {cells F : List (List Nat)} {v : Nat} (hnd : cells.Nodup)
    (hs : ∀ c ∈ cells, c.Pairwise (· < ·)) (hfresh : ∀ c ∈ cells, v ∉ c) (hF : F.Nodup)
    (hFb : ∀ f ∈ F, f ∈ bdry cells) {f : List Nat} (hvf : v ∉ f) :
    f ∈ bdry (cavityInsertWith cells [] F v) ↔ f ∈ bdry cells ∧ f ∉ F :=
  hull_after_extension_conflict hnd hs List.nodup_nil (fun _ h => nomatch h) hfresh hF hFb
    (fun g => by simp [bdry_nil]) hvf fun h => nomatch h

/-! ### §h2 facets through the new vertex -/

/-- **new facets**: the facet `r ∪ {v}` through the new vertex is a hull facet afterwards iff `r` is
a horizon ridge — it lies in exactly one coned facet -/
theorem hull_after_new_facet {cells F : List (List Nat)} (C : List (List Nat)) {v : Nat}
    (hfresh : ∀ c ∈ cells, v ∉ c) (hFs : ∀ f ∈ F, f.Pairwise (· < ·)) (hvF : ∀ f ∈ F, v ∉ f)
    {r : List Nat} (hr : r.Pairwise (· ≤ ·)) :
    coneCell v r ∈ bdry (cavityInsertWith cells C F v) ↔ ridgeCount F r = 1 := by
  rw [mem_bdry, facetCount_step_cone C hfresh hFs hvF hr]

theorem hull_after_new_facet' {cells F : List (List Nat)} (C : List (List Nat)) {v : Nat}
    (hfresh : ∀ c ∈ cells, v ∉ c) (hFs : ∀ f ∈ F, f.Pairwise (· < ·)) (hvF : ∀ f ∈ F, v ∉ f)
    {r : List Nat} (hr : r.Pairwise (· ≤ ·)) :
    coneCell v r ∈ bdry (cavityInsertWith cells C F v) ↔ r ∈ bdry F := by
  rw [hull_after_new_facet C hfresh hFs hvF hr, ridgeCount_eq_one_iff]

theorem hull_facet_through_v {cells F : List (List Nat)} (C : List (List Nat)) {v : Nat}
    (hfresh : ∀ c ∈ cells, v ∉ c) (hFs : ∀ f ∈ F, f.Pairwise (· < ·)) (hvF : ∀ f ∈ F, v ∉ f)
    {g : List Nat} (hg : g ∈ bdry (cavityInsertWith cells C F v)) (hv : v ∈ g) :
    (without g v).Pairwise (· < ·) ∧ coneCell v (without g v) = g ∧ without g v ∈ bdry F := by
  obtain ⟨hgs, hcone⟩ :=
    step_facet_through_v C hfresh hFs hvF (mem_cellFacets.2 (cavityBoundary_facet_of hg)) hv
  have hr := hgs.sublist (without_sublist g v)
  rw [← hcone] at hg
  exact ⟨hr, hcone, (hull_after_new_facet' C hfresh hFs hvF (lt_sorted_le hr)).1 hg⟩

/-! ### §h3 the full characterisation -/

theorem hull_after_mem {cells C F : List (List Nat)} {v : Nat} (hnd : cells.Nodup)
    (hC : C.Nodup) (hsub : ∀ c ∈ C, c ∈ cells) (hfresh : ∀ c ∈ cells, v ∉ c) (hF : F.Nodup)
    (hFs : ∀ f ∈ F, f.Pairwise (· < ·)) (hvF : ∀ f ∈ F, v ∉ f) (g : List Nat) :
    g ∈ bdry (cavityInsertWith cells C F v) ↔
      (v ∉ g ∧ facetCount cells g - facetCount C g + (if g ∈ F then 1 else 0) = 1) ∨
      (∃ r, g = coneCell v r ∧ v ∉ r ∧ r.Pairwise (· < ·) ∧ ridgeCount F r = 1) := by
  constructor
  · intro hg
    by_cases hv : v ∈ g
    · obtain ⟨hr, hcone, hb⟩ := hull_facet_through_v C hfresh hFs hvF hg hv
      exact Or.inr ⟨without g v, hcone.symm, not_mem_without_self g v, hr,
        ridgeCount_eq_one_iff.2 hb⟩
    · exact Or.inl ⟨hv, (hull_after_old_facet hnd hC hsub hF hFs hvF hv).1 hg⟩
  · rintro (⟨hv, h⟩ | ⟨r, rfl, _, hr, h⟩)
    · exact (hull_after_old_facet hnd hC hsub hF hFs hvF hv).2 h
    · exact (hull_after_new_facet C hfresh hFs hvF (lt_sorted_le hr)).2 h

/-! ### §h4 the hull afterwards as a list, counting -/

/-- the hull after the step, up to order: the old hull facets that are not visible (`hold`: the
statement of the `hull_after_*` theorems of §h1), and the cones over the horizon ridges -/
theorem hull_after_perm {cells F V : List (List Nat)} (C : List (List Nat)) {v : Nat}
    (hfresh : ∀ c ∈ cells, v ∉ c) (hFs : ∀ f ∈ F, f.Pairwise (· < ·)) (hvF : ∀ f ∈ F, v ∉ f)
    (hold : ∀ f, v ∉ f → (f ∈ bdry (cavityInsertWith cells C F v) ↔ f ∈ bdry cells ∧ f ∉ V)) :
    (bdry (cavityInsertWith cells C F v)).Perm
      ((bdry cells).filter (fun f => !V.contains f) ++ (bdry F).map (coneCell v)) := by
  have hrs : ∀ r ∈ bdry F, r.Pairwise (· ≤ ·) := fun r hr => lt_sorted_le (bdry_lt_sorted hFs r hr)
  refine (List.perm_ext_iff_of_nodup (bdry_nodup _) (List.nodup_append.2
    ⟨(bdry_nodup cells).sublist List.filter_sublist, map_coneCell_nodup (bdry_nodup F) hrs,
      fun a ha b hb e => ?_⟩)).2 fun g => ?_
  · exact bdry_fresh hfresh a (List.mem_filter.1 ha).1 (e ▸ mem_of_mem_map_coneCell hb)
  rw [List.mem_append, List.mem_filter, not_contains_iff, List.mem_map]
  by_cases hv : v ∈ g
  · -- a facet through `v`: the cone over a horizon ridge
    constructor
    · intro hg
      obtain ⟨_, hcone, hb⟩ := hull_facet_through_v C hfresh hFs hvF hg hv
      exact Or.inr ⟨without g v, hb, hcone⟩
    · rintro (⟨hg, _⟩ | ⟨r, hr, rfl⟩)
      · exact absurd hv (bdry_fresh hfresh g hg)
      · exact (hull_after_new_facet' C hfresh hFs hvF (hrs r hr)).2 hr
  · rw [hold g hv]
    exact ⟨Or.inl, fun h => h.resolve_right fun ⟨r, _, e⟩ => hv (e ▸ self_mem_coneCell v r)⟩

theorem hull_count_of_old_part {cells F V : List (List Nat)} (C : List (List Nat)) {v : Nat}
    (hfresh : ∀ c ∈ cells, v ∉ c) (hFs : ∀ f ∈ F, f.Pairwise (· < ·)) (hvF : ∀ f ∈ F, v ∉ f)
    (hV : V.Nodup) (hVb : ∀ f ∈ V, f ∈ bdry cells)
    (hold : ∀ f, v ∉ f → (f ∈ bdry (cavityInsertWith cells C F v) ↔ f ∈ bdry cells ∧ f ∉ V)) :
    (bdry (cavityInsertWith cells C F v)).length =
      (bdry cells).length - V.length + (bdry F).length := by
  rw [(hull_after_perm C hfresh hFs hvF hold).length_eq, List.length_append, List.length_map,
    length_filter_not_contains (bdry_nodup cells) hV hVb]
/-- **count, pure hull extension**: hull facets afterwards = hull facets before − visible facets +
horizon ridges (`bdry F` is the duplicate-free list of the ridges lying in exactly one facet of `F`) -/
theorem hull_count_extension {cells F : List (List Nat)} {v : Nat} (hnd : cells.Nodup)
    (hs : ∀ c ∈ cells, c.Pairwise (· < ·)) (hfresh : ∀ c ∈ cells, v ∉ c) (hF : F.Nodup)
    (hFb : ∀ f ∈ F, f ∈ bdry cells) :
    (bdry (cavityInsertWith cells [] F v)).length =
      (bdry cells).length - F.length + (bdry F).length :=
  hull_count_of_old_part [] hfresh (fun g hg => bdry_lt_sorted hs g (hFb g hg))
    (fun g hg => bdry_fresh hfresh g (hFb g hg)) hF hFb
    (fun _ hvf => hull_after_extension hnd hs hfresh hF hFb hvf)

theorem hull_count_extension_conflict {cells C F V : List (List Nat)} {v : Nat}
    (hnd : cells.Nodup) (hs : ∀ c ∈ cells, c.Pairwise (· < ·)) (hC : C.Nodup)
    (hsub : ∀ c ∈ C, c ∈ cells) (hfresh : ∀ c ∈ cells, v ∉ c) (hF : F.Nodup) (hV : V.Nodup)
    (hVb : ∀ f ∈ V, f ∈ bdry cells)
    (hFV : ∀ f, f ∈ F ↔ (f ∈ bdry C ∧ f ∉ V) ∨ (f ∈ V ∧ f ∉ bdry C))
    (h2 : ∀ f, facetCount cells f ≤ 2) :
    (bdry (cavityInsertWith cells C F v)).length =
      (bdry cells).length - V.length + (bdry F).length := by
  obtain ⟨hFs, hvF⟩ := bdry_facets_ok hs hsub hfresh hVb hFV
  exact hull_count_of_old_part C hfresh hFs hvF hV hVb
    (fun f hvf => hull_after_extension_conflict hnd hs hC hsub hfresh hF hVb hFV hvf fun _ => h2 f)

/-- **count, interior insertion**: no old hull facet is lost; the new ones are the cones over
`bdry (cavityBoundary C)`, which is empty when the boundary of the removed region is closed -/
theorem hull_count_interior {cells C : List (List Nat)} {v : Nat}
    (hnd : cells.Nodup) (hs : ∀ c ∈ cells, c.Pairwise (· < ·)) (hC : C.Nodup)
    (hsub : ∀ c ∈ C, c ∈ cells) (hfresh : ∀ c ∈ cells, v ∉ c)
    (h2 : ∀ f, facetCount cells f ≤ 2) :
    (bdry (cavityInsert cells C v)).length = (bdry cells).length + (bdry (bdry C)).length := by
  have := hull_count_extension_conflict (V := []) hnd hs hC hsub hfresh (cavityBoundary_nodup C)
    List.nodup_nil (by simp) (fun g => by simp [bdry]) h2
  simpa [cavityInsert, bdry] using this

/-! ### §h5 non-vacuity -/

/-- 2-D: `3` outside `[0,1,2]` seeing the edge `[1,2]`; horizon = the two end points of the edge -/
theorem ex_hull_extension_2d :
    bdry [[0, 1, 2]] = [[1, 2], [0, 2], [0, 1]] ∧
    bdry (cavityInsertWith [[0, 1, 2]] [] [[1, 2]] 3) = [[0, 2], [0, 1], [2, 3], [1, 3]] ∧
    bdry [[1, 2]] = [[2], [1]] := by decide +kernel

/-- interior insertion with both triangles removed (the removed region touches the hull in all
its boundary edges): hull unchanged, no horizon -/
theorem ex_hull_interior_2d :
    bdry [[0, 1, 2], [1, 2, 3]] = [[0, 2], [0, 1], [2, 3], [1, 3]] ∧
    bdry (cavityInsert [[0, 1, 2], [1, 2, 3]] [[0, 1, 2], [1, 2, 3]] 4) =
      [[0, 2], [0, 1], [2, 3], [1, 3]] ∧
    bdry (cavityBoundary [[0, 1, 2], [1, 2, 3]]) = [] := by decide +kernel

/-- interior insertion into a fan plus one triangle, the removed region `[1,2,9]`, `[1,2,3]` touches
the hull in `[2,3]`, `[1,3]`: hull unchanged -/
theorem ex_hull_interior_touching :
    bdry [[0, 1, 9], [1, 2, 9], [0, 2, 9], [1, 2, 3]] = [[0, 1], [0, 2], [2, 3], [1, 3]] ∧
    cavityBoundary [[1, 2, 9], [1, 2, 3]] = [[2, 9], [1, 9], [2, 3], [1, 3]] ∧
    bdry (cavityInsert [[0, 1, 9], [1, 2, 9], [0, 2, 9], [1, 2, 3]] [[1, 2, 9], [1, 2, 3]] 10) =
      [[0, 1], [0, 2], [2, 3], [1, 3]] := by decide +kernel

/-- hull extension seeing the two adjacent edges `[2,3]`, `[1,3]`: both leave the hull, the common
end point `3` is not on the horizon -/
theorem ex_hull_extension_two_edges :
    bdry (cavityInsertWith [[0, 1, 2], [1, 2, 3]] [] [[2, 3], [1, 3]] 4) =
      [[0, 2], [0, 1], [2, 4], [1, 4]] ∧
    bdry [[2, 3], [1, 3]] = [[2], [1]] := by decide +kernel

/-- hull extension with a conflict region: `4` in conflict with `[1,2,3]` sees `[2,3]`; coned are
`[1,2]`, `[1,3]`; `[2,3]` leaves the hull, `[1,3]` stays (as the base of `[1,3,4]`) -/
theorem ex_hull_extension_conflict :
    cavityInsertWith [[0, 1, 2], [1, 2, 3]] [[1, 2, 3]] [[1, 2], [1, 3]] 4 =
      [[0, 1, 2], [1, 2, 4], [1, 3, 4]] ∧
    bdry (cavityInsertWith [[0, 1, 2], [1, 2, 3]] [[1, 2, 3]] [[1, 2], [1, 3]] 4) =
      [[0, 2], [0, 1], [2, 4], [3, 4], [1, 3]] ∧
    bdry [[1, 2], [1, 3]] = [[2], [3]] := by decide +kernel

/-- the degree bound in `hull_after_interior` is needed: the edge `[1,2]` lies in three triangles,
two of them are removed; it is not a boundary edge of the removed region, so it is not coned and is
a hull facet afterwards although it was not one before -/
theorem hull_after_interior_needs_le_two :
    facetCount [[0, 1, 2], [1, 2, 3], [1, 2, 4]] [1, 2] = 3 ∧
    [1, 2] ∉ bdry [[0, 1, 2], [1, 2, 3], [1, 2, 4]] ∧
    [1, 2] ∈ bdry (cavityInsert [[0, 1, 2], [1, 2, 3], [1, 2, 4]] [[1, 2, 3], [1, 2, 4]] 5) := by
  decide +kernel

/-- 3-D: `4` outside the tetrahedron seeing the face `[1,2,3]`; horizon = its three edges -/
theorem ex_hull_3d :
    bdry (cavityInsertWith [[0, 1, 2, 3]] [] [[1, 2, 3]] 4) =
      [[0, 2, 3], [0, 1, 3], [0, 1, 2], [2, 3, 4], [1, 3, 4], [1, 2, 4]] ∧
    bdry [[1, 2, 3]] = [[2, 3], [1, 3], [1, 2]] := by decide +kernel

/-- instances of the general theorems (their hypotheses are satisfiable) -/
example : ∀ f, 3 ∉ f → (f ∈ bdry (cavityInsertWith [[0, 1, 2]] [] [[1, 2]] 3) ↔
    f ∈ bdry [[0, 1, 2]] ∧ f ∉ [[1, 2]]) :=
  fun _ hvf => hull_after_extension (by decide +kernel) (by decide +kernel) (by decide +kernel)
    (by decide +kernel) (by decide +kernel) hvf

example : (bdry (cavityInsertWith [[0, 1, 2], [1, 2, 3]] [] [[2, 3], [1, 3]] 4)).length =
    (bdry [[0, 1, 2], [1, 2, 3]]).length - [[2, 3], [1, 3]].length + (bdry [[2, 3], [1, 3]]).length :=
  hull_count_extension (by decide +kernel) (by decide +kernel) (by decide +kernel)
    (by decide +kernel) (by decide +kernel)

example : ∀ f, 10 ∉ f → facetCount [[0, 1, 9], [1, 2, 9], [0, 2, 9], [1, 2, 3]] f ≤ 2 →
    (f ∈ bdry (cavityInsert [[0, 1, 9], [1, 2, 9], [0, 2, 9], [1, 2, 3]] [[1, 2, 9], [1, 2, 3]] 10) ↔
      f ∈ bdry [[0, 1, 9], [1, 2, 9], [0, 2, 9], [1, 2, 3]]) :=
  fun _ hvf h2 => hull_after_interior (by decide +kernel) (by decide +kernel) (by decide +kernel)
    (by decide +kernel) (by decide +kernel) hvf h2

example : hullStepFacets [[1, 2, 3]] [[2, 3]] = [[1, 3], [1, 2]] ∧
    (bdry (cavityInsertWith [[0, 1, 2], [1, 2, 3]] [[1, 2, 3]]
      (hullStepFacets [[1, 2, 3]] [[2, 3]]) 4)).length =
    (bdry [[0, 1, 2], [1, 2, 3]]).length - [[2, 3]].length +
      (bdry (hullStepFacets [[1, 2, 3]] [[2, 3]])).length :=
  ⟨by decide +kernel,
    hull_count_extension_conflict (by decide +kernel) (by decide +kernel) (by decide +kernel)
      (by decide +kernel) (by decide +kernel) (hullStepFacets_nodup _ (by decide +kernel))
      (by decide +kernel) (by decide +kernel) (fun _ => mem_hullStepFacets)
      (facetCount_le_of_forall_mem (by decide +kernel))⟩

end DM.C11
