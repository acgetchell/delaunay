/-
Props/C03.lean — property theorems for C03 (failed or skipped mutations leave the triangulation
exactly as it was).

 * `scope_restores`: a failing scope leaves the state it started from.
 * `clean_unchanged`: for EVERY failure schedule (which failpoints fire — unbounded, any
   combination), a program satisfying the syntactic criterion `clean` ("every failpoint reachable
   after a mutation lies inside a scope enclosing that mutation") leaves the state unchanged
   whenever it fails.  It is the third part of `run_spec`, one induction on the program that also
   says what `mutates` and `canFail` mean for a run (`run_noMutation`, `run_cannotFail`), which the
   case of `seq` needs.
 * per-operation facts by `decide`: the programs mirroring insert (with and without post-steps),
   remove_vertex (after fix f75d78f), and both repair entry points (after fix 4e8c62c) are
   `clean`; the pinned `remove_vertex` and the public Edit-API flips are NOT, and `dirtyAt` names
   the offending failpoints (`dt_remove.after_removal`; `flip.after_insert_cells`,
   `flip.after_wiring`) — the K2 tie arms exactly those and replays them on the real code.
 * `later_ops_same`: behaviour is a function of the state, so an unchanged state gives the same
   subsequent behaviour.
Partial because the state is the public fingerprint (capacity, slot reuse order and the shared
generation counter are outside it), and the programs are hand-written mirrors tied to the code by
the failpoint trace comparison.
-/
import DelaunayModel.Model.Txn
namespace DM.C03

open DM.Txn

theorem scope_restores (σ : Schedule) (b : Prog) (s : St)
    (h : (run σ (.scope b) s).2 = false) : (run σ (.scope b) s).1 = s := by
  simp only [run] at h ⊢
  split
  · -- the body succeeded, so the scope did
    rw [if_pos ‹_›] at h
    cases h
  · rfl

/-- what the three syntactic tests say about a run.  One induction for the three: at `seq`, the part
about `clean` needs the parts about `mutates` (of the first program) and `canFail` (of the second) -/
theorem run_spec (σ : Schedule) (p : Prog) (s : St) :
    (mutates p = false → (run σ p s).1 = s) ∧
    (canFail p = false → (run σ p s).2 = true) ∧
    (clean p = true → (run σ p s).2 = false → (run σ p s).1 = s) := by
  induction p generalizing s with
  | skip => exact ⟨fun _ => rfl, fun _ => rfl, fun _ _ => rfl⟩
  | mutate t => exact ⟨nofun, fun _ => rfl, nofun⟩
  | failpoint n => exact ⟨fun _ => rfl, nofun, fun _ _ => rfl⟩
  | seq p q ihp ihq =>
    obtain ⟨pStays, pOk, pClean⟩ := ihp s
    obtain ⟨qStays, qOk, qClean⟩ := ihq (run σ p s).1
    simp only [mutates, canFail, clean, run, Bool.or_eq_false_iff, Bool.and_eq_true,
      Bool.or_eq_true, Bool.not_eq_eq_eq_not, Bool.not_true]
    cases hok : (run σ p s).2 with
    | false =>
      -- `p` failed: the run is the run of `p`
      simp only [Bool.false_eq_true, ↓reduceIte]
      exact ⟨fun h => pStays h.1, fun h => (nomatch hok.symm.trans (pOk h.1)),
        fun h _ => pClean h.1 hok⟩
    | true =>
      -- `q` runs from the state `p` left
      simp only [↓reduceIte]
      refine ⟨fun h => (qStays h.2).trans (pStays h.1), fun h => qOk h.2, fun h hf => ?_⟩
      -- `q` failed, so it can fail, and `clean` says: `p` does not mutate and `q` is clean
      rcases h.2 with ⟨hnm, hcq⟩ | hnf
      · exact (qClean hcq hf).trans (pStays hnm)
      · cases hf.symm.trans (qOk hnf)
  | scope b ih =>
    refine ⟨fun h => ?_, fun h => ?_, fun _ => scope_restores σ b s⟩
    · simp only [run]
      split
      · exact (ih s).1 h
      · rfl
    · simp only [run, (ih s).2.1 h, ↓reduceIte]
  | attempt b ih =>
    -- never fails: the state the body left if it succeeded, the snapshot if not
    simp only [mutates, run]
    cases (run σ b s).2 with
    | false => exact ⟨fun _ => rfl, fun _ => rfl, nofun⟩
    | true => exact ⟨(ih s).1, fun _ => rfl, nofun⟩
  | orElse p q ihp ihq =>
    simp only [mutates, canFail, clean, run, Bool.or_eq_false_iff]
    cases (run σ p s).2 with
    | false => exact ⟨fun h => (ihq s).1 h.2, (ihq s).2⟩  -- the run of `q` from the snapshot
    | true => exact ⟨fun h => (ihp s).1 h.1, fun _ => rfl, nofun⟩

theorem run_noMutation (σ : Schedule) (p : Prog) (s : St) (h : mutates p = false) :
    (run σ p s).1 = s :=
  (run_spec σ p s).1 h

theorem run_cannotFail (σ : Schedule) (p : Prog) (s : St) (h : canFail p = false) :
    (run σ p s).2 = true :=
  (run_spec σ p s).2.1 h

/-- **Err ⇒ unchanged**, for every failure schedule -/
theorem clean_unchanged (σ : Schedule) (p : Prog) (s : St) (hc : clean p = true)
    (hf : (run σ p s).2 = false) : (run σ p s).1 = s :=
  (run_spec σ p s).2.2 hc hf

/-- a fallback chain succeeds with the first alternative that succeeds, started from the ORIGINAL
state: earlier failed alternatives leave no trace -/
theorem orElse_first_failed (σ : Schedule) (p q : Prog) (s : St)
    (hp : (run σ p s).2 = false) : run σ (.orElse p q) s = run σ q s := by
  simp only [run, hp, Bool.false_eq_true, ↓reduceIte]

/-- behaviour is a function of the state: after a failed (hence state-preserving) operation any
later program behaves exactly as if the failed call had never been made -/
theorem later_ops_same (σ σ' : Schedule) (p q : Prog) (s : St) (hc : clean p = true)
    (hf : (run σ p s).2 = false) : run σ' q (run σ p s).1 = run σ' q s := by
  rw [clean_unchanged σ p s hc hf]

/-! ### the public mutators -/

theorem insert_clean : clean dtInsertGuarded = true ∧ clean dtInsertBare = true := by decide +kernel
theorem remove_clean : clean dtRemoveGuarded = true := by decide +kernel
theorem repair_clean : clean repairPublic = true := by decide +kernel
/-- the advanced entry point (repair, or else robust repair, or else heuristic rebuild into a
separate candidate) is clean as well -/
theorem repairAdvanced_clean : clean repairAdvanced = true := by decide +kernel

/-- the pinned removal returns `Err` after mutating at exactly these failpoints -/
theorem remove_pinned_dirty :
    clean dtRemovePinned = false ∧ dirtyAt dtRemovePinned false = ["dt_remove.after_removal"] := by
  decide +kernel

/-- …and a concrete schedule on which the state is changed although the call failed -/
theorem remove_pinned_witness :
    let σ : Schedule := fun n => n == "dt_remove.after_removal"
    (run σ dtRemovePinned []).2 = false ∧ (run σ dtRemovePinned []).1 ≠ [] := by decide +kernel

/-- public Edit-API flips are not transactional: a failure after the first mutation leaves a
partially applied move (known finding F6b) -/
theorem editFlip_dirty :
    clean editFlip = false ∧
    dirtyAt editFlip false = ["flip.after_insert_cells", "flip.after_wiring"] := by decide +kernel

theorem editFlip_witness :
    let σ : Schedule := fun n => n == "flip.after_wiring"
    (run σ editFlip []).2 = false ∧ (run σ editFlip []).1 = [11, 10] := by decide +kernel

/-- non-vacuity: a failing schedule exists for each clean program (the hypothesis of
`clean_unchanged` is satisfiable) and the state indeed stays put -/
example : (run (fun n => n == "dt_insert.delaunay_check") dtInsertGuarded [7]) = ([7], false) := by decide +kernel
example : (run (fun n => n == "flip.after_wiring") repairPublic [7]) = ([7], false) := by decide +kernel
example : (run (fun n => n == "flip.after_wiring" || n == "dt_insert.repair") repairAdvanced [7]) = ([7], false) := by decide +kernel
example : (run (fun _ => false) repairAdvanced [7]) = ([12, 11, 10, 12, 11, 10, 7], true) := by decide +kernel
example : (run (fun n => n == "tri_remove.after_remove_cells") dtRemoveGuarded [7]) = ([7], false) := by decide +kernel

end DM.C03
